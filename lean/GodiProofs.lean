import GodiProofs.Graph.KahnMain
import GodiProofs.Graph.Dfs
import GodiProofs.Graph.Inv
import GodiProofs.Graph.Ops
import GodiProofs.Graph.Detect
import GodiProofs.Graph.Bridge
import GodiProofs.Props.C06
import GodiProofs.Graph.DfsFuel
import GodiProofs.Graph.CyclePath
import GodiProofs.Props.C05
import GodiProofs.Collection.Basic
import GodiProofs.Collection.Inv
import GodiProofs.Collection.Ops
import GodiProofs.Collection.Module
import GodiProofs.Collection.Reach
import GodiProofs.Collection.Reject
import GodiProofs.Collection.Views
import GodiProofs.Props.C17
import GodiProofs.Props.C20
import GodiProofs.Collection.Accept
import GodiProofs.Middleware.Loop
import GodiProofs.Middleware.Spec
import GodiProofs.Middleware.Refine
import GodiProofs.Middleware.Trace
import GodiProofs.Middleware.SpecProps
import GodiProofs.Middleware.Seq
import GodiProofs.Props.C16
import GodiProofs.Container.Close
import GodiProofs.Container.CloseReport
import GodiProofs.Container.CloseTwice
import GodiProofs.Container.Registry
import GodiProofs.Container.Frame
import GodiProofs.Container.Instances
import GodiProofs.Container.Stable
import GodiProofs.Container.Verdict
import GodiProofs.Graph.KahnInv
import GodiProofs.Props.C01
import GodiProofs.Props.C02
import GodiProofs.Props.C03
import GodiProofs.Props.C04
import GodiProofs.Props.C07
import GodiProofs.Props.C08
import GodiProofs.Props.C10
import GodiProofs.Props.C11
import GodiProofs.Props.C12
import GodiProofs.Props.C13
import GodiProofs.Props.C14
import GodiProofs.Props.C15
import GodiProofs.Props.C18
import GodiProofs.Props.C19
import GodiProofs.Conc.Clauses
import GodiProofs.Props.C09
import GodiProofs.Conc.Findings
import GodiProofs.Container.RankOfVerdict
import GodiProofs.Container.Terminates
import GodiProofs.Props.C05b
import GodiProofs.Container.NoNotFound
import GodiProofs.Container.Tree
import GodiProofs.Container.TreeOps
import GodiProofs.Container.TreeBuild
import GodiProofs.Container.Cancel
import GodiProofs.Container.BuildTotal
import GodiProofs.Container.Order
import GodiProofs.Container.ArgsBelow
import GodiProofs.Container.KahnOrder
import GodiProofs.Props.C06b
import GodiProofs.Graph.Transitive
import GodiProofs.Container.ScopedInit
import GodiProofs.Graph.CyclePathComplete
import GodiProofs.Graph.Depths
import GodiProofs.Graph.DepthsComplete
