import GodiProofs.Middleware.Refine
import GodiProofs.Middleware.SpecProps
/-! Request sequences on one provider: the scope counter only grows and closed scopes are below it, so
no request gets a scope an earlier one had (used by `C16_sequences`). -/
namespace Godi.Mw

theorem trace_eq {I : Integration} (hI : I ∈ integrations) (rq : Req) (hw : rq.WF) (base : Sid) :
    I.trace rq base = specTrace (styleOf I) rq base :=
  (all_refine I hI rq base [] (by simp) hw).1

def SysOk (sys : Sys) : Prop := ∀ x ∈ sys.closed, x < sys.nextSid

theorem step_spec {I : Integration} (hI : I ∈ integrations) (sys : Sys) (hs : SysOk sys) (rq : Req) (hw : rq.WF) :
    (I.step sys rq).2 = specTrace (styleOf I) rq sys.nextSid ∧
    SysOk (I.step sys rq).1 ∧ sys.nextSid ≤ (I.step sys rq).1.nextSid := by
  have hb : sys.nextSid ∉ sys.closed := fun h => Nat.lt_irrefl _ (hs _ h)
  obtain ⟨h1, h2, h3⟩ := all_refine I hI rq sys.nextSid sys.closed hb hw
  refine ⟨h1, ?_, ?_⟩
  · intro x hx
    simp only [Integration.step] at hx ⊢
    rw [h3] at hx
    rw [h2]
    cases hc : created rq
    · simp only [hc, Bool.false_eq_true, if_false] at hx ⊢
      exact hs x hx
    · simp only [hc, if_true, List.mem_cons] at hx ⊢
      rcases hx with rfl | hx
      · exact Nat.lt_succ_self _
      · exact Nat.lt_succ_of_lt (hs x hx)
  · simp only [Integration.step]; rw [h2]; split
    · exact Nat.le_succ _
    · exact Nat.le_refl _

/-- `C16_sequences` with the lower bound (third conjunct) the induction needs: every scope created
from `sys` on is at least `sys.nextSid` -/
theorem seq_aux {I : Integration} (hI : I ∈ integrations) : ∀ (rqs : List Req) (sys : Sys), SysOk sys → (∀ rq ∈ rqs, rq.WF) →
    (I.runSeq sys rqs).length = rqs.length ∧
    ((I.runSeq sys rqs).flatMap createdScopes).Pairwise (· < ·) ∧
    (∀ x ∈ (I.runSeq sys rqs).flatMap createdScopes, sys.nextSid ≤ x) ∧
    (∀ t ∈ I.runSeq sys rqs, ∀ e ∈ t, ∀ x ∈ e.seen, createdScopes t = [x] ∧ closes t x = 1)
  | [], _, _, _ => by simp [Integration.runSeq]
  | rq :: rqs, sys, hs, hw => by
    have hw0 : rq.WF := hw rq (List.mem_cons_self ..)
    obtain ⟨h1, h2, h3⟩ := step_spec hI sys hs rq hw0
    obtain ⟨l, p, lo, own⟩ := seq_aux hI rqs (I.step sys rq).1 h2 (fun r hr => hw r (List.mem_cons_of_mem _ hr))
    have hcr : createdScopes (I.step sys rq).2 = if created rq then [sys.nextSid] else [] := by
      rw [h1]; exact spec_created _ rq _
    have hnext : created rq = true → sys.nextSid < (I.step sys rq).1.nextSid := by
      intro hc
      have := (all_refine I hI rq sys.nextSid sys.closed (fun h => Nat.lt_irrefl _ (hs _ h)) hw0).2.1
      simp only [Integration.step]; rw [this, hc]; simp
    refine ⟨by rw [Integration.runSeq, List.length_cons, l, List.length_cons], ?_, ?_, ?_⟩
    · simp only [Integration.runSeq, List.flatMap_cons, List.pairwise_append]
      refine ⟨?_, p, ?_⟩
      · rw [hcr]; split <;> simp
      · intro a ha b hb
        rw [hcr] at ha
        cases hc : created rq
        · simp [hc] at ha
        · simp only [hc, if_true, List.mem_singleton] at ha
          subst ha
          exact Nat.lt_of_lt_of_le (hnext hc) (lo b hb)
    · intro x hx
      simp only [Integration.runSeq, List.flatMap_cons, List.mem_append] at hx
      rcases hx with hx | hx
      · rw [hcr] at hx
        cases hc : created rq
        · simp [hc] at hx
        · simp only [hc, if_true, List.mem_singleton] at hx; rw [hx]; exact Nat.le_refl _
      · exact Nat.le_trans h3 (lo x hx)
    · intro t ht e he x hx
      simp only [Integration.runSeq, List.mem_cons] at ht
      rcases ht with rfl | ht
      · rw [h1] at he ⊢
        have hxe : x = sys.nextSid := spec_seen (styleOf I) rq sys.nextSid e he x hx
        subst hxe
        -- a scope is mentioned only if it was created
        have hc : created rq = true := by
          cases hc : created rq
          · rw [spec_unseen (styleOf I) rq sys.nextSid hc e he] at hx
            cases hx
          · rfl
        exact ⟨by rw [spec_created, hc]; rfl, by rw [spec_closes, hc]; simp⟩
      · exact own t ht e he x hx

end Godi.Mw
