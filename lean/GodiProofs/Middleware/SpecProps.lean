import GodiProofs.Middleware.Spec
import GodiProofs.Middleware.Trace
/-! What C16 says, proved once about `specTrace`, for every request and both styles. -/
namespace Godi.Mw

/-- does the request get as far as the routed handler -/
def reaches (rq : Req) : Bool := !rq.installed || (rq.create = .ok && !mwFails rq)

/-- does the handler body / controller method itself run -/
def invoked (rq : Req) : Bool :=
  match rq.down with
  | .plain => reaches rq
  | .handle _ rf => reaches rq && rq.installed && !rf

/-- does a panic of the handler leave the whole stack -/
def panicEscapes (rq : Req) : Bool :=
  invoked rq && rq.outcome = .panic && (match rq.down with | .plain => true | .handle r _ => !r)

/-- is a handler panic swallowed by `Handle`'s recovery -/
def panicRecovered (rq : Req) : Bool :=
  invoked rq && rq.outcome = .panic && (match rq.down with | .plain => false | .handle r _ => r)

section
variable (a c l : Option Sid) (i k : Nat)
@[simp] theorem cnt_anyclose : (mwEvs a c l i k).countP Ev.isAnyClose = 0 := countP_mwEvs _ _ _ _ (fun _ => rfl) _ _
end

/-- evaluate a statement about `specTail` on every combination of the finite request components.
Nothing below calls it; the lemmas about the tail go through `specTail_cases`. -/
macro "tail_cases" rq:ident sty:ident " with " extra:Lean.Parser.Tactic.simpLemma,* : tactic => `(tactic| (
  cases hm : mwFails $rq <;> cases $sty:ident <;>
    rcases hd : ($rq).down with _ | ⟨r, rf⟩ <;> cases ho : ($rq).outcome <;> cases hce : ($rq).closeErr <;>
    try (cases r <;> cases rf)
  all_goals
    simp [specTail, downSpec, closeEvs, locOf, reaches, invoked, panicEscapes, panicRecovered, hm, hd, ho, hce,
      List.countP_cons, List.countP_append, $extra,*]))

theorem downSpec_plain {rq : Req} (hd : rq.down = .plain) (sc loc : Option Sid) :
    downSpec rq sc loc = ([.handlerRan sc loc sc.isSome], decide (rq.outcome = .panic)) := by
  rw [downSpec, hd]

theorem downSpec_handle_none {rq : Req} {r rf : Bool} (hd : rq.down = .handle r rf) (loc : Option Sid) :
    downSpec rq none loc = ([.scopeErrHandler], false) := by
  rw [downSpec, hd]

theorem downSpec_handle_some {rq : Req} {r rf : Bool} (hd : rq.down = .handle r rf) (s : Sid) (loc : Option Sid) :
    downSpec rq (some s) loc =
      (.handleScope s :: ((if rf then [.resolutionErrHandler] else [.handleResolved s, .methodCalled (some s) true]) ++
        if !rf && decide (rq.outcome = .panic) && r then [.panicHandler] else []),
       !rf && decide (rq.outcome = .panic) && !r) := by
  rw [downSpec, hd]
  cases rf <;> cases r <;> by_cases ho : rq.outcome = .panic <;> simp [ho]

theorem forall_downSpec_none {rq : Req} {loc : Option Sid} {P : Ev → Prop}
    (h₁ : P (.handlerRan none loc false)) (h₂ : P .scopeErrHandler) : ∀ e ∈ (downSpec rq none loc).1, P e := by
  rcases hd : rq.down with _ | ⟨r, rf⟩
  · rw [downSpec_plain hd]; exact List.forall_mem_singleton.2 h₁
  · rw [downSpec_handle_none hd]; exact List.forall_mem_singleton.2 h₂

theorem forall_downSpec_some {rq : Req} {s : Sid} {loc : Option Sid} {P : Ev → Prop}
    (h₁ : P (.handlerRan (some s) loc true)) (h₂ : P (.handleScope s)) (h₃ : P .resolutionErrHandler)
    (h₄ : P (.handleResolved s)) (h₅ : P (.methodCalled (some s) true)) (h₆ : P .panicHandler) :
    ∀ e ∈ (downSpec rq (some s) loc).1, P e := by
  rcases hd : rq.down with _ | ⟨r, rf⟩
  · rw [downSpec_plain hd]; exact List.forall_mem_singleton.2 h₁
  · rw [downSpec_handle_some hd]
    refine List.forall_mem_cons.2 ⟨h₂, List.forall_mem_append.2 ⟨?_, ?_⟩⟩ <;> split <;>
      simp only [List.forall_mem_cons, List.not_mem_nil, false_imp_iff, implies_true, h₃, h₄, h₅, h₆, and_self]

theorem downSpec_methodAfter (rq : Req) (sc loc : Option Sid) (t : List Ev) (res : List Sid) (ht : t.countP Ev.isMethod = 0) :
    methodAfterResolve ((downSpec rq sc loc).1 ++ t) res = true := by
  rcases hd : rq.down with _ | ⟨r, rf⟩
  · rw [downSpec_plain hd]; exact methodAfter_of_noMethod _ _ ht
  · cases sc with
    | none => rw [downSpec_handle_none hd]; exact methodAfter_of_noMethod _ _ ht
    | some s =>
      have hn : ∀ c : Prop, [Decidable c] → ((if c then [Ev.panicHandler] else []) ++ t).countP Ev.isMethod = 0 := fun c _ => by
        simp only [List.countP_append, countP_opt, ht, Ev.isMethod, Bool.and_false, Bool.toNat_false]
      rw [downSpec_handle_some hd]
      cases rf <;>
        simp only [Bool.false_eq_true, if_true, if_false, List.cons_append, List.nil_append, methodAfterResolve, List.contains_cons,
          beq_self_eq_true, Bool.true_or, Bool.true_and, methodAfter_of_noMethod _ _ (hn _)]

theorem countP_closeEvs (p : Ev → Bool) (rq : Req) (s : Sid) (report : Bool) :
    (closeEvs rq s report).countP p = (p (.scopeClosed s)).toNat + (rq.closeErr && report && p .closeErrHandlerRan).toNat := by
  rw [closeEvs, countP_cons_toNat, countP_opt, Bool.decide_eq_true]

theorem specTail_cases {motive : List Ev → Prop} (sty : Style) (rq : Req) (s : Sid)
    (failDeferred : mwFails rq = true → sty = .deferred → motive (.errorHandlerRan :: closeEvs rq s true))
    (failInline : mwFails rq = true → sty = .inline → motive (closeEvs rq s false ++ [.errorHandlerRan]))
    (panicDeferred : mwFails rq = false → (downSpec rq (some s) (locOf sty s)).2 = true → sty = .deferred →
      motive ((downSpec rq (some s) (locOf sty s)).1 ++ closeEvs rq s true ++ [.panicPropagated]))
    (panicInline : mwFails rq = false → (downSpec rq (some s) (locOf sty s)).2 = true → sty = .inline →
      motive ((downSpec rq (some s) (locOf sty s)).1 ++ [.panicPropagated] ++ closeEvs rq s false))
    (back : mwFails rq = false → (downSpec rq (some s) (locOf sty s)).2 = false →
      motive ((downSpec rq (some s) (locOf sty s)).1 ++ closeEvs rq s true)) :
    motive (specTail sty rq s) := by
  cases hm : mwFails rq
  · cases hd₂ : (downSpec rq (some s) (locOf sty s)).2 <;> cases sty <;>
      simp only [specTail, hm, hd₂, Bool.false_eq_true, if_false, if_true]
    · exact back hm hd₂
    · exact back hm hd₂
    · exact panicDeferred hm hd₂ rfl
    · exact panicInline hm hd₂ rfl
  · cases sty <;> simp only [specTail, hm, if_true]
    · exact failDeferred hm rfl
    · exact failInline hm rfl

theorem countP_specTail (p : Ev → Bool) (sty : Style) (rq : Req) (s : Sid) :
    (specTail sty rq s).countP p =
      (p (.scopeClosed s)).toNat +
        if mwFails rq then
          (p .errorHandlerRan).toNat + (rq.closeErr && decide (sty = .deferred) && p .closeErrHandlerRan).toNat
        else
          (downSpec rq (some s) (locOf sty s)).1.countP p +
          ((downSpec rq (some s) (locOf sty s)).2 && p .panicPropagated).toNat +
          (rq.closeErr && (decide (sty = .deferred) || !(downSpec rq (some s) (locOf sty s)).2) && p .closeErrHandlerRan).toNat := by
  refine specTail_cases (motive := fun l => l.countP p = _) sty rq s ?_ ?_ ?_ ?_ ?_ <;> intros <;> subst_vars <;>
    simp only [*, List.countP_append, countP_cons_toNat, countP_closeEvs, List.countP_nil, if_true, if_false, Bool.false_eq_true,
      decide_true, decide_false, Bool.and_true, Bool.true_or, Bool.or_true, Bool.false_or, Bool.not_true, Bool.not_false,
      Bool.toNat_false, reduceCtorEq, Bool.true_and, Bool.false_and] <;> omega

theorem forall_specTail {sty : Style} {rq : Req} {s : Sid} {P : Ev → Prop}
    (h₁ : P .errorHandlerRan) (h₂ : P .panicPropagated) (h₃ : P (.scopeClosed s)) (h₄ : P .closeErrHandlerRan)
    (h₅ : ∀ e ∈ (downSpec rq (some s) (locOf sty s)).1, P e) : ∀ e ∈ specTail sty rq s, P e := by
  have hc : ∀ r, (∀ e ∈ closeEvs rq s r, P e) ↔ True := fun r => iff_true_intro <| by
    rw [closeEvs]; split <;> simp only [List.forall_mem_cons, List.not_mem_nil, false_imp_iff, implies_true, h₃, h₄, and_self]
  refine specTail_cases (motive := fun l => ∀ e ∈ l, P e) sty rq s (fun _ _ => ?_) (fun _ _ => ?_) (fun _ _ _ => ?_)
    (fun _ _ _ => ?_) (fun _ _ => ?_) <;>
    simp only [List.forall_mem_append, List.forall_mem_cons, List.not_mem_nil, false_imp_iff, implies_true, h₁, h₂, hc,
      iff_true_intro h₅, and_self]

theorem tail_created (sty : Style) (rq : Req) (s : Sid) : createdScopes (specTail sty rq s) = [] :=
  List.filterMap_eq_nil_iff.2 (forall_specTail rfl rfl rfl rfl (forall_downSpec_some rfl rfl rfl rfl rfl rfl))

theorem tail_mwIndices (sty : Style) (rq : Req) (s : Sid) : mwIndices (specTail sty rq s) = [] :=
  List.filterMap_eq_nil_iff.2 (forall_specTail rfl rfl rfl rfl (forall_downSpec_some rfl rfl rfl rfl rfl rfl))

theorem noUse_closeEvs_append (rq : Req) (s : Sid) (report : Bool) (t : List Ev) (cl : List Sid) :
    noUseAfterClose (closeEvs rq s report ++ t) cl = noUseAfterClose t (s :: cl) := by
  rw [closeEvs]; split <;> rfl

theorem noUse_closeEvs (rq : Req) (s : Sid) (report : Bool) (cl : List Sid) :
    noUseAfterClose (closeEvs rq s report) cl = true := by
  rw [← List.append_nil (closeEvs ..), noUse_closeEvs_append]; rfl

/-- whatever uses the scope comes before the Close: in each shape of the tail the events up to the
Close contain no Close (so they are skipped), and after it only handlers that mention no scope run -/
theorem tail_noUse {sty : Style} {rq : Req} {s : Sid} (pre : List Ev) (hp : pre.countP Ev.isAnyClose = 0) :
    noUseAfterClose (pre ++ specTail sty rq s) [] = true := by
  have hd : (downSpec rq (some s) (locOf sty s)).1.countP Ev.isAnyClose = 0 :=
    List.countP_eq_zero.2 (forall_downSpec_some Bool.false_ne_true Bool.false_ne_true Bool.false_ne_true
      Bool.false_ne_true Bool.false_ne_true Bool.false_ne_true)
  have heh := noUse_cons_of_noClose (e := .errorHandlerRan) rfl
  have hpp := noUse_cons_of_noClose (e := .panicPropagated) rfl
  refine specTail_cases (motive := fun l => noUseAfterClose (pre ++ l) [] = true) sty rq s ?_ ?_ ?_ ?_ ?_ <;> intros <;>
    simp only [List.append_assoc, List.cons_append, List.nil_append, noUse_append_of_noClose, hp, hd, heh, hpp,
      noUse_closeEvs_append, noUse_closeEvs] <;> rfl

theorem tail_methodAfter (sty : Style) (rq : Req) (s : Sid) (res : List Sid) :
    methodAfterResolve (specTail sty rq s) res = true := by
  refine specTail_cases (motive := fun l => methodAfterResolve l res = true) sty rq s ?_ ?_ ?_ ?_ ?_ <;> intros <;>
    simp only [List.append_assoc, downSpec_methodAfter, methodAfter_of_noMethod, countP_cons_toNat, List.countP_append, countP_closeEvs,
      List.countP_nil, Ev.isMethod, Bool.and_false, Bool.toNat_false]

theorem specTrace_notInstalled {rq : Req} (h : rq.installed = false) (sty : Style) (s : Sid) :
    specTrace sty rq s = (downSpec rq none none).1 ++ if (downSpec rq none none).2 then [.panicPropagated] else [] := by
  simp only [specTrace, h, Bool.not_false, if_true]

theorem specTrace_createFailed {rq : Req} (hi : rq.installed = true) (hc : rq.create ≠ .ok) (sty : Style) (s : Sid) :
    specTrace sty rq s = [.createFailed, .errorHandlerRan] := by
  simp only [specTrace, hi, Bool.not_true, Bool.false_eq_true, if_false]

theorem specTrace_created {rq : Req} (h : created rq = true) (sty : Style) (s : Sid) :
    specTrace sty rq s = .scopeCreated s :: (mwEvs (some s) (some s) (locOf sty s) 0 (ranCount rq) ++ specTail sty rq s) := by
  simp only [created, Bool.and_eq_true, decide_eq_true_eq] at h
  simp only [specTrace, h.1, h.2, Bool.not_true, Bool.false_eq_true, if_false]

theorem forall_specTrace_of_not_created {rq : Req} (h : created rq = false) {sty : Style} {s : Sid} {P : Ev → Prop}
    (h₁ : P .createFailed) (h₂ : P .errorHandlerRan) (h₃ : P .panicPropagated) (h₄ : P (.handlerRan none none false))
    (h₅ : P .scopeErrHandler) : ∀ e ∈ specTrace sty rq s, P e := by
  cases hi : rq.installed
  · rw [specTrace_notInstalled hi]
    refine List.forall_mem_append.2 ⟨forall_downSpec_none h₄ h₅, ?_⟩
    split
    · exact List.forall_mem_singleton.2 h₃
    · exact fun _ h => nomatch h
  · rw [specTrace_createFailed hi (by simpa [created, hi] using h)]
    simp only [List.forall_mem_cons, h₁, h₂, List.not_mem_nil, false_imp_iff, implies_true, and_self]

theorem forall_specTrace_of_created {rq : Req} (h : created rq = true) {sty : Style} {s : Sid} {P : Ev → Prop}
    (h₁ : P (.scopeCreated s)) (h₂ : ∀ i, P (.mwRan i (some s) (some s) (locOf sty s)))
    (h₃ : ∀ e ∈ specTail sty rq s, P e) : ∀ e ∈ specTrace sty rq s, P e := by
  rw [specTrace_created h]
  refine List.forall_mem_cons.2 ⟨h₁, List.forall_mem_append.2 ⟨fun e he => ?_, h₃⟩⟩
  obtain ⟨i, rfl⟩ := mem_mwEvs he
  exact h₂ i

theorem invoked_of_not_reaches {rq : Req} (h : reaches rq = false) : invoked rq = false := by
  unfold invoked; rw [h]; cases rq.down <;> rfl

/-- Which events the specified trace holds, and how often: each event stands next to the condition
under which it occurs, and then occurs once. The counts of C16 are read off by evaluating `p` on the
fourteen events. `hp`: the configured middlewares' events are counted apart (`countP_mwEvs`);
every predicate C16 counts is false on them. -/
theorem countP_specTrace {p : Ev → Bool} {sty : Style} {s : Sid} (hp : ∀ i, p (.mwRan i (some s) (some s) (locOf sty s)) = false)
    (rq : Req) :
    (specTrace sty rq s).countP p =
      (created rq && p (.scopeCreated s)).toNat
      + (rq.installed && !created rq && p .createFailed).toNat
      + (rq.installed && !reaches rq && p .errorHandlerRan).toNat
      + (reaches rq && rq.installed && decide (rq.down = .plain) && p (.handlerRan (some s) (locOf sty s) true)).toNat
      + (!rq.installed && decide (rq.down = .plain) && p (.handlerRan none none false)).toNat
      + (!rq.installed && decide (rq.down ≠ .plain) && p .scopeErrHandler).toNat
      + (reaches rq && rq.installed && decide (rq.down ≠ .plain) && p (.handleScope s)).toNat
      + (reaches rq && rq.installed && (match rq.down with | .plain => false | .handle _ rf => rf) && p .resolutionErrHandler).toNat
      + (invoked rq && decide (rq.down ≠ .plain) && p (.handleResolved s)).toNat
      + (invoked rq && decide (rq.down ≠ .plain) && p (.methodCalled (some s) true)).toNat
      + (panicRecovered rq && p .panicHandler).toNat
      + (panicEscapes rq && p .panicPropagated).toNat
      + (created rq && p (.scopeClosed s)).toNat
      + (created rq && rq.closeErr && (decide (sty = .deferred) || reaches rq && !panicEscapes rq) && p .closeErrHandlerRan).toNat := by
  cases hI : rq.installed
  · -- no scope middleware: the handler runs without a scope
    rw [specTrace_notInstalled hI]
    rcases hd : rq.down with _ | ⟨r, rf⟩
    · rw [downSpec_plain hd]
      simp [hI, hd, created, reaches, invoked, panicEscapes, panicRecovered, countP_cons_toNat, countP_opt]
    · rw [downSpec_handle_none hd]
      simp [hI, hd, created, reaches, invoked, panicEscapes, panicRecovered, countP_cons_toNat]
  · by_cases hc : rq.create = .ok
    · have hcr : created rq = true := by rw [created, hI, hc]; rfl
      rw [specTrace_created hcr, countP_cons_toNat, List.countP_append, countP_mwEvs _ _ _ _ hp, countP_specTail]
      cases hm : mwFails rq
      · rcases hd : rq.down with _ | ⟨r, rf⟩
        · rw [downSpec_plain hd]
          simp [hI, hc, hm, hd, created, reaches, invoked, panicEscapes, panicRecovered, countP_cons_toNat]
          omega
        · rw [downSpec_handle_some hd]
          cases rf <;>
            simp [hI, hc, hm, hd, created, reaches, invoked, panicEscapes, panicRecovered, countP_cons_toNat, countP_opt] <;>
            omega
      · have hr : reaches rq = false := by rw [reaches, hI, hc, hm]; rfl
        simp [hI, hc, created, hr, invoked_of_not_reaches hr, panicEscapes, panicRecovered]
        omega
    · have hr : reaches rq = false := by rw [reaches, hI, decide_eq_false hc]; rfl
      rw [specTrace_createFailed hI hc]
      simp [hI, hc, created, hr, invoked_of_not_reaches hr, panicEscapes, panicRecovered, countP_cons_toNat]

theorem spec_created (sty : Style) (rq : Req) (s : Sid) :
    createdScopes (specTrace sty rq s) = if created rq then [s] else [] := by
  cases hc : created rq
  · exact List.filterMap_eq_nil_iff.2 (forall_specTrace_of_not_created hc rfl rfl rfl rfl rfl)
  · rw [specTrace_created hc, createdScopes_cons, createdScopes_append, createdScopes_mwEvs, tail_created]
    rfl

theorem spec_closes (sty : Style) (rq : Req) (s x : Sid) :
    closes (specTrace sty rq s) x = if created rq ∧ s = x then 1 else 0 := by
  rw [closes, countP_specTrace fun _ => rfl]
  simp only [Ev.isClose, Bool.and_false, Bool.toNat_false, Nat.add_zero, Nat.zero_add]
  rw [toNat_eq_ite]; simp only [Bool.and_eq_true, beq_iff_eq]

theorem spec_unseen (sty : Style) (rq : Req) (s : Sid) (hc : created rq = false) :
    ∀ e ∈ specTrace sty rq s, e.seen = [] :=
  forall_specTrace_of_not_created hc rfl rfl rfl rfl rfl

theorem spec_seen (sty : Style) (rq : Req) (s : Sid) : ∀ e ∈ specTrace sty rq s, ∀ x ∈ e.seen, x = s := by
  cases hc : created rq
  · intro e he x hx
    rw [spec_unseen sty rq s hc e he] at hx
    cases hx
  · have hl : ∀ x ∈ (locOf sty s).toList, x = s := by cases sty <;> simp [locOf]
    refine forall_specTrace_of_created hc ?_ (fun i => ?_)
      (forall_specTail ?_ ?_ ?_ ?_ (forall_downSpec_some ?_ ?_ ?_ ?_ ?_ ?_)) <;>
    simp only [Ev.seen, List.mem_cons, List.mem_append, Option.toList_some, List.not_mem_nil, or_false, forall_eq, false_imp_iff,
      implies_true, or_imp, forall_and, and_self, iff_true_intro hl]

end Godi.Mw
