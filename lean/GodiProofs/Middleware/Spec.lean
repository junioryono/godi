import GodiProofs.Middleware.Loop
import GodiModel.MiddlewareAll
/-!
The abstract request trace (`specTrace`) — a declarative description of what one request through a
scope middleware must look like — and what it means for an integration to refine it (`Refines`; proved
for the five integrations in `Refine.lean`). Everything C16 says is proved once about `specTrace`
(`SpecProps.lean`).
-/
namespace Godi.Mw

/-- the two shapes found in the sources: Close deferred right after creation (http, chi, gin, echo)
or called inline after `next` and in the error branch, with the scope also stored in the locals
(fiber) -/
inductive Style where
  | deferred | inline
  deriving DecidableEq, Repr

/-- what the routed handler does when the scope it can see is `sc` (locals: `loc`); the flag says
whether a panic leaves it -/
def downSpec (rq : Req) (sc loc : Option Sid) : List Ev × Bool :=
  match rq.down with
  | .plain => ([.handlerRan sc loc sc.isSome], rq.outcome = .panic)
  | .handle recovery resolveFails =>
    match sc with
    | none => ([.scopeErrHandler], false)
    | some s =>
      if resolveFails then ([.handleScope s, .resolutionErrHandler], false)
      else if rq.outcome = .panic then
        if recovery then ([.handleScope s, .handleResolved s, .methodCalled (some s) true, .panicHandler], false)
        else ([.handleScope s, .handleResolved s, .methodCalled (some s) true], true)
      else ([.handleScope s, .handleResolved s, .methodCalled (some s) true], false)

def closeEvs (rq : Req) (s : Sid) (report : Bool) : List Ev :=
  .scopeClosed s :: (if rq.closeErr && report then [.closeErrHandlerRan] else [])

/-- where the handler of an integration of style `sty` finds scope `s` in the framework locals -/
def locOf (sty : Style) (s : Sid) : Option Sid := if sty = .inline then some s else none

/-- what follows the configured middlewares of a request whose scope is `s` -/
def specTail (sty : Style) (rq : Req) (s : Sid) : List Ev :=
  if mwFails rq then
    match sty with
    | .deferred => .errorHandlerRan :: closeEvs rq s true
    | .inline => closeEvs rq s false ++ [.errorHandlerRan]
  else
    let d := downSpec rq (some s) (locOf sty s)
    if d.2 then
      match sty with
      | .deferred => d.1 ++ closeEvs rq s true ++ [.panicPropagated]
      | .inline => d.1 ++ [.panicPropagated] ++ closeEvs rq s false
    else d.1 ++ closeEvs rq s true

/-- the trace of one request whose `CreateScope` (if it succeeds) returns scope `s` -/
def specTrace (sty : Style) (rq : Req) (s : Sid) : List Ev :=
  if !rq.installed then
    (downSpec rq none none).1 ++ (if (downSpec rq none none).2 then [.panicPropagated] else [])
  else
    match rq.create with
    | .ok => .scopeCreated s :: (mwEvs (some s) (some s) (locOf sty s) 0 (ranCount rq) ++ specTail sty rq s)
    | _ => [.createFailed, .errorHandlerRan]

/-- C16 speaks about requests that pass the scope middleware: a scope already present in the
incoming context (`rq.outer`) is considered only for those (what a handler sees without the
middleware is not the middleware's doing) -/
def Req.WF (rq : Req) : Prop := rq.installed = false → rq.outer = none

def created (rq : Req) : Bool := rq.installed && rq.create = .ok

/-- an integration refines the spec: for every request, every fresh scope id and every set of
already closed scopes its trace is the specified one, it draws exactly one scope id iff a scope is
created, and that scope is closed afterwards -/
def Refines (I : Integration) (sty : Style) : Prop :=
  ∀ (rq : Req) (base : Sid) (closed : List Sid), base ∉ closed → rq.WF →
    (I.run rq base closed).trace = specTrace sty rq base ∧
    (I.run rq base closed).nextSid = (if created rq then base + 1 else base) ∧
    (I.run rq base closed).closed = (if created rq then base :: closed else closed)

end Godi.Mw
