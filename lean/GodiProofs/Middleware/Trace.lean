import GodiProofs.Middleware.Loop
/-!
Observers on event traces (what C16 talks about), and how they act on appended lists and on the
middleware prefix `mwEvs`.
-/
namespace Godi.Mw

def Ev.isAttempt : Ev → Bool | .scopeCreated _ => true | .createFailed => true | _ => false
def Ev.isClose (s : Sid) : Ev → Bool | .scopeClosed x => x == s | _ => false
def Ev.isAnyClose : Ev → Bool | .scopeClosed _ => true | _ => false
def Ev.isErrorHandler : Ev → Bool | .errorHandlerRan => true | _ => false
/-- first event of every run of the routed handler: the plain handler's own event, or `Handle`
finding / not finding a scope -/
def Ev.isDownEntry : Ev → Bool | .handlerRan .. => true | .handleScope _ => true | .scopeErrHandler => true | _ => false
def Ev.isMethod : Ev → Bool | .methodCalled .. => true | _ => false
def Ev.isScopeErr : Ev → Bool | .scopeErrHandler => true | _ => false
def Ev.isResolutionErr : Ev → Bool | .resolutionErrHandler => true | _ => false
def Ev.isPanicOut : Ev → Bool | .panicPropagated => true | _ => false
def Ev.isPanicHandler : Ev → Bool | .panicHandler => true | _ => false
def Ev.isBad : Ev → Bool | .nilDeref => true | .stuck _ => true | _ => false

/-- every scope an event mentions -/
def Ev.seen : Ev → List Sid
  | .scopeCreated s => [s]
  | .mwRan _ a c l => a.toList ++ c.toList ++ l.toList
  | .handlerRan c l _ => c.toList ++ l.toList
  | .handleScope s => [s]
  | .handleResolved s => [s]
  | .methodCalled c _ => c.toList
  | .scopeClosed s => [s]
  | _ => []

/-- scopes an event *uses* (everything it mentions except creating/closing it) -/
def Ev.uses : Ev → List Sid
  | .scopeCreated _ => []
  | .scopeClosed _ => []
  | e => e.seen

/-- user code that runs inside the request sees scope `s` through every channel the integration
offers (`needLoc`: also through the framework locals), and sees it open -/
def Ev.seesFully (needLoc : Bool) (s : Sid) : Ev → Bool
  | .mwRan _ a c l => a == some s && c == some s && (!needLoc || l == some s)
  | .handlerRan c l live => c == some s && (!needLoc || l == some s) && live
  | .handleScope x => x == s
  | .handleResolved x => x == s
  | .methodCalled c live => c == some s && live
  | _ => true

def createdScopes (t : List Ev) : List Sid := t.filterMap fun | .scopeCreated s => some s | _ => none
def mwIndices (t : List Ev) : List Nat := t.filterMap fun | .mwRan i .. => some i | _ => none
def createAttempts (t : List Ev) : Nat := t.countP Ev.isAttempt
def closes (t : List Ev) (s : Sid) : Nat := t.countP (Ev.isClose s)
def anyCloses (t : List Ev) : Nat := t.countP Ev.isAnyClose
def errorHandlerRuns (t : List Ev) : Nat := t.countP Ev.isErrorHandler
def downRuns (t : List Ev) : Nat := t.countP Ev.isDownEntry
def methodCalls (t : List Ev) : Nat := t.countP Ev.isMethod
def scopeErrs (t : List Ev) : Nat := t.countP Ev.isScopeErr
def resolutionErrs (t : List Ev) : Nat := t.countP Ev.isResolutionErr
def panicsOut (t : List Ev) : Nat := t.countP Ev.isPanicOut
def panicHandlers (t : List Ev) : Nat := t.countP Ev.isPanicHandler

/-- no event uses a scope after the event that closed it (scan with the set of closed scopes) -/
def noUseAfterClose : List Ev → List Sid → Bool
  | [], _ => true
  | e :: t, cl =>
    match e with
    | .scopeClosed s => noUseAfterClose t (s :: cl)
    | e => e.uses.all (fun x => !cl.contains x) && noUseAfterClose t cl

/-- the controller method is only ever called with a controller resolved earlier in the trace -/
def methodAfterResolve : List Ev → List Sid → Bool
  | [], _ => true
  | e :: t, res =>
    match e with
    | .handleResolved s => methodAfterResolve t (s :: res)
    | .methodCalled c _ => (match c with | some s => res.contains s | none => false) && methodAfterResolve t res
    | _ => methodAfterResolve t res

theorem toNat_eq_ite (b : Bool) : b.toNat = if b then 1 else 0 := by cases b <;> rfl

theorem countP_cons_toNat {α} (p : α → Bool) (a : α) (l : List α) : (a :: l).countP p = (p a).toNat + l.countP p := by
  rw [List.countP_cons, toNat_eq_ite, Nat.add_comm]

theorem countP_opt {α} (p : α → Bool) (c : Prop) [Decidable c] (a : α) :
    (if c then [a] else []).countP p = (decide c && p a).toNat := by
  by_cases h : c <;> simp only [h, if_true, if_false, countP_cons_toNat, List.countP_nil, decide_true, decide_false, Bool.true_and,
    Bool.false_and, Bool.toNat_false, Nat.add_zero]

theorem noUse_cons_of_noClose {e : Ev} (h : e.isAnyClose = false) (t : List Ev) :
    noUseAfterClose (e :: t) [] = noUseAfterClose t [] := by
  have hall : ∀ l : List Sid, (l.all fun _ => true) = true := fun l => List.all_eq_true.2 fun _ _ => rfl
  cases e with
  | scopeClosed => cases h
  | _ => simp only [noUseAfterClose, List.contains_nil, Bool.not_false, hall, Bool.true_and]

theorem noUse_append_of_noClose (post : List Ev) :
    ∀ pre : List Ev, pre.countP Ev.isAnyClose = 0 → noUseAfterClose (pre ++ post) [] = noUseAfterClose post []
  | [], _ => rfl
  | e :: t, h => by
    rw [countP_cons_toNat] at h
    rw [List.cons_append, noUse_cons_of_noClose (Bool.toNat_eq_zero.1 (by omega)), noUse_append_of_noClose post t (by omega)]

theorem methodAfter_of_noMethod : ∀ (l : List Ev) (res : List Sid), l.countP Ev.isMethod = 0 → methodAfterResolve l res = true
  | [], _, _ => rfl
  | e :: t, res, h => by
    rw [countP_cons_toNat] at h
    have ht := fun res' => methodAfter_of_noMethod t res' (by omega)
    cases e with
    | methodCalled => exact absurd h (by simp only [Ev.isMethod, Bool.toNat_true]; omega)
    | _ => exact ht _

@[simp] theorem createdScopes_nil : createdScopes [] = [] := rfl
theorem createdScopes_cons (e : Ev) (t : List Ev) :
    createdScopes (e :: t) = (match e with | .scopeCreated s => [s] | _ => []) ++ createdScopes t := by
  cases e <;> rfl
@[simp] theorem mwIndices_nil : mwIndices [] = [] := rfl
theorem mwIndices_cons (e : Ev) (t : List Ev) :
    mwIndices (e :: t) = (match e with | .mwRan i .. => [i] | _ => []) ++ mwIndices t := by
  cases e <;> rfl

theorem mwIndices_append (a b : List Ev) : mwIndices (a ++ b) = mwIndices a ++ mwIndices b := List.filterMap_append
theorem createdScopes_append (a b : List Ev) : createdScopes (a ++ b) = createdScopes a ++ createdScopes b :=
  List.filterMap_append

theorem countP_mwEvs (p : Ev → Bool) (a c l : Option Sid) (hp : ∀ i, p (.mwRan i a c l) = false) :
    ∀ k i, (mwEvs a c l i k).countP p = 0
  | 0, _ => rfl
  | k + 1, i => by rw [mwEvs, countP_cons_toNat, hp, countP_mwEvs p a c l hp k]; rfl

theorem createdScopes_mwEvs (a c l : Option Sid) : ∀ k i, createdScopes (mwEvs a c l i k) = []
  | 0, _ => rfl
  | k + 1, i => by rw [mwEvs, createdScopes_cons, createdScopes_mwEvs a c l k]; rfl

theorem mwIndices_mwEvs (a c l : Option Sid) : ∀ k i, mwIndices (mwEvs a c l i k) = List.range' i k
  | 0, _ => rfl
  | k + 1, i => by rw [mwEvs, mwIndices_cons, mwIndices_mwEvs a c l k]; rfl

theorem mem_mwEvs {a c l : Option Sid} {e : Ev} : ∀ {k i}, e ∈ mwEvs a c l i k → ∃ j, e = .mwRan j a c l
  | 0, _, h => by cases h
  | k + 1, i, h => by
    simp only [mwEvs, List.mem_cons] at h
    rcases h with h | h
    · exact ⟨i, h⟩
    · exact mem_mwEvs h

theorem methodAfter_mwEvs_append (a c l : Option Sid) (t : List Ev) (res : List Sid) :
    ∀ k i, methodAfterResolve (mwEvs a c l i k ++ t) res = methodAfterResolve t res
  | 0, _ => rfl
  | k + 1, i => by simp only [mwEvs, List.cons_append, methodAfterResolve, methodAfter_mwEvs_append a c l t res k]

end Godi.Mw
