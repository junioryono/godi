import GodiModel.Middleware
/-!
Generic lemmas about the M7 interpreter: the unbounded part of C16 (any number of configured
middlewares, any failing index) is handled here by induction, once, for every error branch that ends
in `return`.
-/
namespace Godi.Mw

/-- the `mwRan` events of the middlewares `i, i+1, …, i+k-1` -/
def mwEvs (a c l : Option Sid) : Nat → Nat → List Ev
  | _, 0 => []
  | i, k + 1 => .mwRan i a c l :: mwEvs a c l (i + 1) k

def St.emits (st : St) (l : List Ev) : St := { st with trace := st.trace ++ l }

@[simp] theorem St.emits_nil (st : St) : st.emits [] = st := by simp [St.emits]
theorem St.emit_emits (st : St) (e : Ev) (l : List Ev) : (st.emit e).emits l = st.emits (e :: l) := by
  simp [St.emits, St.emit]
@[simp] theorem St.emits_ctl (st : St) (l : List Ev) : (st.emits l).ctl = st.ctl := rfl
@[simp] theorem St.emit_ctl (st : St) (e : Ev) : (st.emit e).ctl = st.ctl := rfl
@[simp] theorem St.emit_scope (st : St) (e : Ev) : (st.emit e).scope = st.scope := rfl
@[simp] theorem St.emit_ctxScope (st : St) (e : Ev) : (st.emit e).ctxScope = st.ctxScope := rfl
@[simp] theorem St.emit_locScope (st : St) (e : Ev) : (st.emit e).locScope = st.locScope := rfl

theorem execE_stopped (rq : Req) (es : List EStmt) (st : St) (h : st.ctl ≠ .run) : execE rq es st = st := by
  cases es with
  | nil => rfl
  | cons e es => simp [execE, h]

/-- an error branch that contains a `return` never falls through -/
theorem execE_ret_stops (rq : Req) : ∀ (es : List EStmt), EStmt.ret ∈ es → ∀ st : St, st.ctl = .run → (execE rq es st).ctl ≠ .run
  | e :: es, h, st, hr => by
    rw [execE, if_pos hr]
    by_cases hc : (stepE rq e st).ctl = .run
    · refine execE_ret_stops rq es ((List.mem_cons.1 h).resolve_left fun he => ?_) _ hc
      rw [← he] at hc; cases hc
    · rwa [execE_stopped rq es _ hc]

theorem runMws_stopped (rq : Req) (onErr : List EStmt) (rem i : Nat) (st : St) (h : st.ctl ≠ .run) :
    runMws rq onErr rem i st = st := by
  cases rem with
  | zero => rfl
  | succ r => simp [runMws, h]

/-- none of the middlewares `i … i + rem - 1` fails: all of them run -/
theorem runMws_ok (rq : Req) (onErr : List EStmt) : ∀ (rem i : Nat) (st : St), st.ctl = .run →
    (∀ j, i ≤ j → j < i + rem → rq.mwFail ≠ some j) →
    runMws rq onErr rem i st = st.emits (mwEvs st.scope st.ctxScope st.locScope i rem)
  | 0, _, st, _, _ => st.emits_nil.symm
  | rem + 1, i, st, hr, h => by
    simp only [runMws, hr, if_true, h i (Nat.le_refl i) (by omega), if_false]
    rw [runMws_ok rq onErr rem (i + 1) (st.emit _) hr fun j _ _ => h j (by omega) (by omega)]
    exact St.emit_emits ..

/-- middleware `i + k` fails: `i … i + k` run with the same three views of the scope, then the error
branch, which returns -/
theorem runMws_fail (rq : Req) (onErr : List EStmt) (hret : EStmt.ret ∈ onErr) (m : Nat) : ∀ (k i : Nat) (st : St), st.ctl = .run →
    rq.mwFail = some (i + k) →
    runMws rq onErr (k + 1 + m) i st = execE rq onErr (st.emits (mwEvs st.scope st.ctxScope st.locScope i (k + 1)))
  | 0, i, st, hr, h => by
    simp only [Nat.zero_add, Nat.add_comm 1 m, runMws, hr, if_true, show rq.mwFail = some i from h]
    exact runMws_stopped _ _ _ _ _ (execE_ret_stops rq onErr hret _ hr)
  | k + 1, i, st, hr, h => by
    have hi : rq.mwFail ≠ some i := by rw [h]; simp
    simp only [show k + 1 + 1 + m = (k + 1 + m) + 1 by omega, runMws, hr, if_true, hi, if_false]
    rw [runMws_fail rq onErr hret m k (i + 1) (st.emit _) hr (by rw [h]; congr 1; omega)]
    exact congrArg _ (St.emit_emits ..)

/-- how many configured middlewares run -/
def ranCount (rq : Req) : Nat :=
  match rq.mwFail with
  | some f => if f < rq.nMw then f + 1 else rq.nMw
  | none => rq.nMw

/-- does one of the configured middlewares fail -/
def mwFails (rq : Req) : Bool :=
  match rq.mwFail with
  | some f => decide (f < rq.nMw)
  | none => false

/-- the whole loop, from index 0 -/
theorem runMws_all (rq : Req) (onErr : List EStmt) (hret : EStmt.ret ∈ onErr) (st : St) (hr : st.ctl = .run) :
    runMws rq onErr rq.nMw 0 st =
      if mwFails rq then execE rq onErr (st.emits (mwEvs st.scope st.ctxScope st.locScope 0 (ranCount rq)))
      else st.emits (mwEvs st.scope st.ctxScope st.locScope 0 (ranCount rq)) := by
  unfold mwFails ranCount
  cases hf : rq.mwFail with
  | none => exact runMws_ok rq onErr _ 0 st hr fun j _ _ => by rw [hf]; exact nofun
  | some f =>
    by_cases h : f < rq.nMw
    · obtain ⟨m, hm⟩ : ∃ m, rq.nMw = f + 1 + m := ⟨rq.nMw - f - 1, by omega⟩
      simp only [h, decide_true, if_true]
      rw [hm]
      exact runMws_fail rq onErr hret m f 0 st hr (by rw [hf, Nat.zero_add])
    · simp only [h, decide_false, if_false, Bool.false_eq_true]
      exact runMws_ok rq onErr _ 0 st hr fun j _ hj => by rw [hf]; exact fun e => h (by cases e; omega)
end Godi.Mw
