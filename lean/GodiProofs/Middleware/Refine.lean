import GodiProofs.Middleware.Spec
/-!
Refinement of the five GENERATED integrations to `specTrace`. Two program shapes occur in the
sources, and a theorem about each (`deferred_refines`, `inline_refines`) is proved for an arbitrary
integration of that shape; the unbounded part (number of configured middlewares, failing index) goes
through `runMws_all`, the `Handle` wrapper through what it does to a state (`HandleRefines`). The regenerated terms
`Gen.<fw>ScopeMw` / `Gen.<fw>Handle` come in at the end, by `rfl` against the shape. A term containing
`.unknown`, or one whose control flow differs (no `defer`, Close before `next`, missing `Abort` under
gin's chain semantics, a second `create`, …) is of neither shape and the proof fails.
-/
namespace Godi.Mw

/-- `mw_refine I F M H`: integration constant, its facts, its generated middleware and Handle terms.
A sweep: the concrete terms evaluated on every combination of the finite request components.
Nothing below calls it; the five instances go through the two shapes. -/
macro "mw_refine" I:ident F:ident M:ident H:ident : tactic => `(tactic| (
  intro rq base closed hb hwf
  cases hI : rq.installed
  · have hou : rq.outer = none := hwf hI
    rcases hd : rq.down with _ | ⟨r, rf⟩ <;> cases ho : rq.outcome <;> try (cases r <;> cases rf)
    all_goals
      simp [Integration.run, runRequest, $I:ident, $F:ident, $H:ident, runDown, runPlain, runHandle, execH, stepH, execHE, stepHE,
        requestEnd, specTrace, specTail, locOf, downSpec, created, St.emit, St.setCtl, HSt.emit, hI, hd, ho, hou]
  · cases hc : rq.create
    · cases hm : mwFails rq
      · rcases hd : rq.down with _ | ⟨r, rf⟩ <;> cases ho : rq.outcome <;> cases hce : rq.closeErr <;> try (cases r <;> cases rf)
        all_goals
          simp [Integration.run, runRequest, $I:ident, $F:ident, $M:ident, $H:ident, exec, step, runMws_all, execE, stepE, runDefers, closeScope,
            runDown, runPlain, runHandle, execH, stepH, execHE, stepHE, downSpec, HSt.emit,
            requestEnd, specTrace, specTail, locOf, created, St.emit, St.setCtl, St.emits, hI, hc, hm, hce, hd, ho, closeEvs, hb]
      · cases hce : rq.closeErr <;>
        simp [Integration.run, runRequest, $I:ident, $F:ident, $M:ident, exec, step, runMws_all, execE, stepE, runDefers, closeScope,
          requestEnd, specTrace, specTail, locOf, created, St.emit, St.setCtl, St.emits, hI, hc, hm, hce, closeEvs, hb]
    all_goals
      simp [Integration.run, runRequest, $I:ident, $F:ident, $M:ident, exec, step, runMws_all, execE, stepE, runDefers, closeScope,
        requestEnd, specTrace, specTail, locOf, created, St.emit, St.setCtl, St.emits, hI, hc, closeEvs, hb]))

theorem execH_append (rq : Req) (r rf : Bool) : ∀ (a b : List HStmt) (h : HSt),
    execH rq r rf (a ++ b) h = execH rq r rf b (execH rq r rf a h)
  | [], _, _ => rfl
  | s :: a, b, h => by
    by_cases hr : h.ctl = .run
    · simp only [List.cons_append, execH, hr, if_true, execH_append rq r rf a b]
    · cases b <;> simp only [List.cons_append, List.append_nil, execH, hr, if_false]

theorem runHandle_append_ret (hp : List HStmt) (rq : Req) (r rf : Bool) (st : St) :
    runHandle (hp ++ [.ret]) rq r rf st = runHandle hp rq r rf st := by
  simp only [runHandle, execH_append, execH]
  generalize execH rq r rf hp { g := st } = h
  rcases hc : h.ctl <;> simp [hc, stepH]

/-- What the middleware proofs need of a `Handle` program `hp`: on a state in which the scope it looks
up (`look st`: the request context's for http/chi/gin/echo, the locals' for fiber) is open, it emits
`downSpec`'s events for that scope and a panic leaves iff `downSpec` says so. `runDown_spec` uses it
where both places hold the same scope. -/
def HandleRefines (hp : List HStmt) (look : St → Option Sid) : Prop :=
  ∀ (rq : Req) (r rf : Bool) (st : St), rq.down = .handle r rf → (∀ s, look st = some s → s ∉ st.closed) →
    runHandle hp rq r rf st =
      (st.emits (downSpec rq (look st) st.locScope).1).setCtl (if (downSpec rq (look st) st.locScope).2 then .panicking else .run)

/-- `Gen.httpHandle` = `Gen.chiHandle` = `Gen.ginHandle`, and `Gen.echoHandle` up to a final `return`
(checked by `rfl` in the five instances below) -/
def ctxHandle : List HStmt :=
  [.deferRecover true, .fromContext, .ifScopeErr [.scopeErrHandler, .ret], .resolve, .ifResolveErr [.resolutionErrHandler, .ret], .callMethod]

section
attribute [local simp] runHandle execH stepH execHE stepHE HSt.emit St.emit St.emits St.setCtl downSpec

theorem ctxHandle_refines : HandleRefines ctxHandle St.ctxScope := by
  intro rq r rf st hd ho
  cases hs : st.ctxScope with
  | none => cases r <;> simp [ctxHandle, hd, hs]
  | some s =>
    have hcl := ho s hs
    cases rf with
    | true => cases r <;> simp [ctxHandle, hd, hs, hcl]
    | false => cases r <;> by_cases hp : rq.outcome = .panic <;> simp [ctxHandle, hd, hs, hp, hcl]

/-- `Gen.fiberHandle` up to its final `return` -/
def locHandle : List HStmt :=
  [.deferRecover true, .fromLocals, .ifScopeErr [.scopeErrHandler, .ret], .castScope, .ifScopeErr [.scopeErrHandler, .ret],
   .resolve, .ifResolveErr [.resolutionErrHandler, .ret], .callMethod]

theorem locHandle_refines : HandleRefines locHandle St.locScope := by
  intro rq r rf st hd ho
  cases hs : st.locScope with
  | none => cases r <;> simp [locHandle, hd, hs]
  | some s =>
    have hcl := ho s hs
    cases rf with
    | true => cases r <;> simp [locHandle, hd, hs, hcl]
    | false => cases r <;> by_cases hp : rq.outcome = .panic <;> simp [locHandle, hd, hs, hp, hcl]

end

theorem HandleRefines.append_ret {hp : List HStmt} {look : St → Option Sid} (h : HandleRefines hp look) :
    HandleRefines (hp ++ [.ret]) look := fun rq r rf st hd ho => by
  rw [runHandle_append_ret]; exact h rq r rf st hd ho

theorem runDown_spec {hp : List HStmt} {look : St → Option Sid} (hh : HandleRefines hp look) (rq : Req) (st : St)
    (hr : st.ctl = .run) (hl : look st = st.ctxScope) (ho : ∀ s, st.ctxScope = some s → s ∉ st.closed) :
    runDown hp rq st =
      (st.emits (downSpec rq st.ctxScope st.locScope).1).setCtl (if (downSpec rq st.ctxScope st.locScope).2 then .panicking else .run) := by
  rw [runDown]
  rcases hd : rq.down with _ | ⟨r, rf⟩
  · cases hs : st.ctxScope <;> by_cases hp : rq.outcome = .panic <;>
      simp [runPlain, downSpec, hd, hs, hp, ho, St.emit, St.emits, St.setCtl, ← hr]
  · simp only; rw [hh rq r rf st hd (hl ▸ ho), hl]

theorem closeScope_open (rq : Req) (report : Bool) {st : St} {s : Sid} (hs : st.scope = some s) (ho : s ∉ st.closed) :
    closeScope rq report st = { st.emits (closeEvs rq s report) with closed := s :: st.closed } := by
  simp only [closeScope, hs, ho, if_false, closeEvs]
  split <;> simp [St.emit, St.emits]

/-- the error branch found in the sources: the error handler, `c.Abort()` under gin, `return` -/
def errBranch (abort : Bool) : List EStmt := .errorHandler :: (if abort then [.abort, .ret] else [.ret])

theorem ret_mem_errBranch (ab : Bool) : EStmt.ret ∈ errBranch ab := by cases ab <;> decide

theorem execE_errBranch (rq : Req) (ab : Bool) (st : St) (hr : st.ctl = .run) :
    execE rq (errBranch ab) st = { st.emit .errorHandlerRan with aborted := st.aborted || ab, ctl := .returned } := by
  cases ab <;> simp [errBranch, execE, stepE, hr, St.emit, St.setCtl]

section
attribute [local simp] Integration.run runRequest exec step execE stepE runDefers requestEnd specTrace specTail closeEvs locOf
  created St.emit St.emits St.setCtl

theorem run_notInstalled {I : Integration} {look : St → Option Sid} (hh : HandleRefines I.handle look)
    (hl : ∀ st : St, st.ctxScope = none → st.locScope = none → look st = none)
    {rq : Req} (hI : rq.installed = false) (hw : rq.WF) (sty : Style) (base : Sid) (closed : List Sid) :
    (I.run rq base closed).trace = specTrace sty rq base ∧
    (I.run rq base closed).nextSid = (if created rq then base + 1 else base) ∧
    (I.run rq base closed).closed = (if created rq then base :: closed else closed) := by
  have hd := runDown_spec hh rq { nextSid := base, closed := closed, ctxScope := rq.outer } rfl
    (by rw [hw hI]; exact hl _ rfl rfl) (by rw [hw hI]; exact fun _ h => nomatch h)
  rw [hw hI] at hd
  cases hp : (downSpec rq none none).2 <;> cases he : I.facts.requestEndClosesLocals <;> simp [hI, hw hI, hd, hp, he]

/-- Close deferred right after creation, the scope attached to the request context, the configured
middlewares, then the rest of the chain (http, chi, gin, echo). Under gin's chain semantics the error
branches must abort. -/
theorem deferred_refines (I : Integration) (ab : Bool) (rest : List Stmt)
    (hmw : I.mw = [.create, .ifCreateErr (errBranch ab), .deferClose true, .attachCtx, .forMiddlewares (errBranch ab), .next] ++ rest)
    (hrest : rest = [] ∨ rest = [.ret])
    (hh : HandleRefines I.handle St.ctxScope)
    (hend : I.facts.requestEndClosesLocals = false)
    (hab : I.facts.chainContinuesUnlessAborted = true → ab = true) : Refines I .deferred := by
  intro rq base closed hb hw
  have hch : ¬(I.facts.chainContinuesUnlessAborted = true ∧ ab = false) := fun ⟨h, h'⟩ => by rw [hab h] at h'; cases h'
  cases hI : rq.installed
  · exact run_notInstalled hh (fun _ h _ => h) hI hw _ _ _
  · by_cases hc : rq.create = .ok
    · cases hm : mwFails rq
      · rcases hrest with rfl | rfl <;> cases hp : (downSpec rq (some base) none).2 <;>
          simp [hI, hmw, hc, hm, hb, hp, hend, runMws_all, ret_mem_errBranch, runDown_spec hh, closeScope_open]
      · simp [hI, hmw, hc, hm, hb, hch, hend, runMws_all, ret_mem_errBranch, execE_errBranch, closeScope_open]
    · simp [hI, hmw, hc, hch, hend, execE_errBranch]

/-- Close called inline after `next` and in the error branch, the scope also stored in the locals,
which the framework closes at the end of the request (fiber) -/
theorem inline_refines (I : Integration)
    (hmw : I.mw = [.create, .ifCreateErr [.errorHandler, .ret], .attachCtx, .attachLocals,
      .forMiddlewares [.closeNow, .errorHandler, .ret], .next, .closeNow true, .ret])
    (hh : HandleRefines I.handle St.locScope)
    (hend : I.facts.requestEndClosesLocals = true)
    (hch : I.facts.chainContinuesUnlessAborted = false) : Refines I .inline := by
  intro rq base closed hb hw
  cases hI : rq.installed
  · exact run_notInstalled hh (fun _ _ h => h) hI hw _ _ _
  · by_cases hc : rq.create = .ok
    · cases hm : mwFails rq
      · cases hp : (downSpec rq (some base) (some base)).2 <;>
          simp [hI, hmw, hc, hm, hb, hp, hch, hend, runMws_all, runDown_spec hh, closeScope_open]
      · simp [hI, hmw, hc, hm, hb, hch, hend, runMws_all, closeScope_open]
    · simp [hI, hmw, hc, hch, hend]

end

theorem http_refines : Refines http .deferred :=
  deferred_refines http false [] rfl (.inl rfl) ctxHandle_refines rfl (fun h => nomatch h)
theorem chi_refines : Refines chi .deferred :=
  deferred_refines chi false [] rfl (.inl rfl) ctxHandle_refines rfl (fun h => nomatch h)
theorem gin_refines : Refines gin .deferred :=
  deferred_refines gin true [] rfl (.inl rfl) ctxHandle_refines rfl (fun _ => rfl)
theorem echo_refines : Refines echo .deferred :=
  deferred_refines echo false [.ret] rfl (.inr rfl) ctxHandle_refines.append_ret rfl (fun h => nomatch h)
theorem fiber_refines : Refines fiber .inline :=
  inline_refines fiber rfl locHandle_refines.append_ret rfl rfl


/-- The style each integration is expected to have. "Publishes the scope through the locals" is said in
three ways that nothing forces to agree: the trusted fact `requestEndClosesLocals` (used here), the
statement `attachLocals` in the generated middleware (`usesLocals`), and the shape that refines
`specTrace .inline`. That they agree on the five integrations is `usesLocals_style` and `all_refine`,
both by going through the five; a sixth integration or a third style means revisiting these two,
`specTail_cases` and `C16_configuration_order`. -/
def styleOf (I : Integration) : Style := if I.facts.requestEndClosesLocals then .inline else .deferred

theorem all_refine : ∀ I ∈ integrations, Refines I (styleOf I) := by
  intro I hI
  simp only [integrations, List.mem_cons, List.mem_nil_iff, or_false] at hI
  rcases hI with rfl | rfl | rfl | rfl | rfl
  · exact http_refines
  · exact chi_refines
  · exact gin_refines
  · exact echo_refines
  · exact fiber_refines

def usesLocals (I : Integration) : Bool := decide (Stmt.attachLocals ∈ I.mw)

theorem usesLocals_style : ∀ I ∈ integrations, usesLocals I = decide (styleOf I = .inline) := by decide +kernel

end Godi.Mw
