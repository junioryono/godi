import GodiProofs.Conc.Gate
/-! Child scopes: a child whose CAS was won and whose `closed` channel is still open has exactly
one thread inside its `Close` body. -/
namespace Godi.Conc

/-- the thread is inside the body of `Close` of child `q` -/
def Pc.kwin (q : Cid) : Pc → Nat
  | .kDetP c _ | .kDetS c _ | .kSig c _ => if c = q then 1 else 0
  | _ => 0
def kwin (q : Cid) (th : Thr) : Nat := th.pc.kwin q

/-- the child this thread is waiting for -/
def Pc.waitsKid : Pc → Option Cid
  | .kWait c _ => some c
  | _ => none

variable {c : Cfg} {s s' : Sh} {pc pc' : Pc} {sp : List Pc}

theorem of_waitsKid_none (h : pc.waitsKid = none) {P : Cid → Prop} : ∀ q, pc.waitsKid = some q → P q :=
  fun _ hq => nomatch h.symm.trans hq

/-- winning the CAS of child `ch`, and signalling its end, seen from child `q` -/
theorem kid_cas {n ch q : Nat} {closed disp : List Nat} (hn : n + 0 + closed.count q = disp.count q) :
    n + (if ch = q then 1 else 0) + closed.count q = (ch :: disp).count q := by
  simp only [List.count_cons, beq_iff_eq]; omega
theorem kid_sig {n ch q : Nat} {closed disp : List Nat}
    (hn : n + (if ch = q then 1 else 0) + closed.count q = disp.count q) :
    n + 0 + (ch :: closed).count q = disp.count q := by
  simp only [List.count_cons, beq_iff_eq]; omega

/-- an action that touches neither the two lists nor the thread's part in them -/
theorem kid_quiet {n kw kw' : Cid → Nat} {disp closed : List Cid} {w : Option Cid}
    (hn : ∀ q, n q + kw q + closed.count q = disp.count q) (hk : kw' = kw) (hw : w = none) :
    (∀ q, n q + kw' q + closed.count q = disp.count q) ∧ (∀ q, q ∈ disp → q ∈ disp) ∧
      (∀ q, w = some q → q ∈ disp) :=
  ⟨hk ▸ hn, fun _ h => h, fun _ hq => nomatch hw.symm.trans hq⟩

/-- A child's CAS is won once (`kCas` on a child not yet in `kidDisp`) and the winner stays inside the body
until it signals (`kSig`); `kidDisp` only grows, and a thread waits for a child only after losing its CAS. -/
theorem act_kid (h : Act c s pc pc' s' sp) (n : Cid → Nat)
    (hn : ∀ q, n q + pc.kwin q + s.kidClosed.count q = s.kidDisp.count q) :
    (∀ q, n q + pc'.kwin q + s'.kidClosed.count q = s'.kidDisp.count q) ∧
    (∀ q, q ∈ s.kidDisp → q ∈ s'.kidDisp) ∧ (∀ q, pc'.waitsKid = some q → q ∈ s'.kidDisp) := by
  cases h
  case kCas_lost hd => exact ⟨hn, fun _ h => h, fun _ hq => by cases hq; exact hd⟩
  case kCas ch k _ => exact ⟨fun q => kid_cas (hn q), fun _ h => List.mem_cons_of_mem _ h, nofun⟩
  case kSig_ret ch _ | kSig_kids ch _ _ | kSig_scopes ch _ =>
    all_goals exact ⟨fun q => kid_sig (hn q), fun _ h => h, of_waitsKid_none rfl⟩
  all_goals exact kid_quiet hn rfl rfl

structure KidInv (s : Sys) : Prop where
  win : ∀ q, tot (kwin q) s.thr + s.sh.kidClosed.count q = s.sh.kidDisp.count q
  wait : ∀ th ∈ s.thr, ∀ q, th.pc.waitsKid = some q → q ∈ s.sh.kidDisp

theorem KidInv.step {s s' : Sys} (inv : KidInv s) (st : Step s s') : KidInv s' := by
  obtain ⟨th, pc', sp, others, v⟩ := st.acting
  obtain ⟨win, grow, wait⟩ := act_kid v.act (fun q => tot (kwin q) others) (fun q => v.before (kwin q) ▸ inv.win q)
  exact ⟨fun q => v.after (kwin q) (fun _ => rfl) ▸ win q,
    v.lift (fun x h q hq => grow q (inv.wait x (v.others_mem x h) q hq)) wait (fun _ => nofun)⟩

end Godi.Conc
