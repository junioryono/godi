import GodiProofs.Conc.Gate
/-! `S.Close` and its children (repair 0c7a2e0 of finding F1'): the children are taken from the table
BEFORE the context is cancelled, so `S.Close` itself never wakes a child's watcher while the child is
still in the table; and every child of the snapshot stays on the closer's work list until its
`dispose` has completed — by the closer itself, or by somebody else for whom the closer waits at
`kWait`. (The model has no per-child `closeErr`: `kSig` is the child's scope.go:285 and 284 as one action,
so that the outcome is written before `closed` is closed is how `kSig` was modelled, not a theorem.) -/
namespace Godi.Conc

/-- the children the thread inside `S.Close` still has to dispose (the one in progress first) -/
def Pc.work : Pc → Option (List Cid)
  | .cCancel l _ | .cKids l _ => some l
  | .kCas c (.kids rest _) | .kWait c (.kids rest _) | .kDetP c (.kids rest _) | .kDetS c (.kids rest _)
  | .kSig c (.kids rest _) => some (c :: rest)
  | .cTakeD _ | .cDrain _ _ | .cDetS _ | .cNil _ | .cErr _ | .cSig _ => some []
  | _ => none

theorem work_winS {pc : Pc} {l : List Cid} (h : pc.work = some l) : pc.winS = 1 := by
  cases pc
  case kCas k | kWait k | kDetP k | kDetS k | kSig k => all_goals cases k <;> first | rfl | cases h
  case cCancel | cKids | cTakeD | cDrain | cDetS | cNil | cErr | cSig => rfl
  all_goals cases h

/-- every child of the snapshot is still on the work list or completely disposed -/
def Covered (s : Sh) (l : List Cid) : Prop := ∀ x ∈ s.snap, x ∈ l ∨ x ∈ s.kidClosed

variable {c : Cfg} {s s' : Sh} {pc pc' : Pc} {sp : List Pc}

/-- `CollectInv` as the acting thread sees it -/
structure CollectAt (s : Sh) (pc : Pc) : Prop where
  cov : ∀ l, pc.work = some l → Covered s l
  canc : s.cancelled = true → s.userCancelled = true ∨ s.children = none
  sig : s.closedSig = true → ∀ x ∈ s.snap, x ∈ s.kidClosed

/-- The snapshot is written by `cTake` alone, whose thread starts with all of it on its work list; a
child leaves the list when the closer returns from its `dispose`: after its own `kSig`, which marks the
child closed, or after `kWait`, enabled only for a closed child. The context is cancelled by the user
or at `cCancel`, after the take. -/
theorem act_collect (h : Act c s pc pc' s' sp) (hw : pc.wf = true)
    (take : pc.afterTake = true → s.children = none) (win : 0 < pc.winS → s.closedSig = false)
    (g : CollectAt s pc) :
    CollectAt s' pc' ∧ (s'.snap = s.snap ∨ 0 < pc.winS) ∧ (∀ x, x ∈ s.kidClosed → x ∈ s'.kidClosed) := by
  -- a child that is closed may leave the work list
  have drop : ∀ {ch rest} {s'' : Sh}, s''.snap = s.snap → ch ∈ s''.kidClosed → (∀ x, x ∈ s.kidClosed → x ∈ s''.kidClosed) →
      Covered s (ch :: rest) → Covered s'' rest := fun e hc mono cov x hx =>
    (cov x (e ▸ hx)).elim (fun h => (List.mem_cons.1 h).elim (fun e' => .inr (e' ▸ hc)) .inl) (fun h => .inr (mono x h))
  have same : (s.snap = s.snap ∨ 0 < pc.winS) ∧ ∀ x, x ∈ s.kidClosed → x ∈ s.kidClosed := ⟨.inl rfl, fun _ h => h⟩
  cases h
  case cTake =>
    exact ⟨⟨fun _ hl x hx => .inl (by cases hl; exact hx), fun _ => .inr rfl,
      fun hs => (nomatch (win Nat.zero_lt_one).symm.trans hs)⟩, .inr Nat.zero_lt_one, fun _ h => h⟩
  case cCancel => exact ⟨{ g with canc := fun _ => .inr (take rfl) }, same⟩
  case xCancel => exact ⟨{ g with canc := fun _ => .inl rfl }, same⟩
  case sAdd l hl =>
    exact ⟨{ g with canc := fun hc => .inl ((g.canc hc).resolve_right (fun hn => (nomatch hn.symm.trans hl))) }, same⟩
  case kDetP k =>
    cases k <;> exact ⟨{ g with canc := fun hc => (g.canc hc).imp_right Option.map_eq_none_iff.2 }, same⟩
  case kCas_lost k _ | kCas k _ | kDetS k => all_goals cases k <;> exact ⟨{ g with }, same⟩
  case kSig_ret ch _ | kSig_kids ch _ _ | kSig_scopes ch _ =>
    all_goals
      refine ⟨⟨?_, g.canc, fun hs x hx => List.mem_cons_of_mem _ (g.sig hs x hx)⟩, .inl rfl, fun _ h => List.mem_cons_of_mem _ h⟩
      exact fun l hl => by cases hl <;> exact drop rfl (List.mem_cons_self ..) (fun _ h => List.mem_cons_of_mem _ h) (g.cov _ rfl)
  case kWait_kids hc => exact ⟨⟨fun l hl => by cases hl; exact drop rfl hc (fun _ h => h) (g.cov _ rfl), g.canc, g.sig⟩, same⟩
  case cSig_ret | cSig_scopes =>
    all_goals exact ⟨⟨nofun, g.canc, fun _ x hx => (g.cov _ rfl x hx).resolve_left nofun⟩, same⟩
  case cWait_kids | cSig_kids => cases hw
  all_goals exact ⟨{ g with }, same⟩

structure CollectInv (s : Sys) : Prop where
  cov : ∀ th ∈ s.thr, ∀ l, th.pc.work = some l → Covered s.sh l
  canc : s.sh.cancelled = true → s.sh.userCancelled = true ∨ s.sh.children = none
  sig : s.sh.closedSig = true → ∀ x ∈ s.sh.snap, x ∈ s.sh.kidClosed

theorem CollectInv.step {s s' : Sys} (wf : WfSys s) (g : Gate s) (inv : CollectInv s) (st : Step s s') :
    CollectInv s' := by
  obtain ⟨th, pc', sp, others, v⟩ := st.acting
  obtain ⟨c, hsnap, mono⟩ := act_collect v.act (wf th v.mem) (g.take th v.mem) (fun hp => (g.inside v.mem hp).2)
    ⟨inv.cov th v.mem, inv.canc, inv.sig⟩
  refine ⟨v.lift (fun x h l hl => ?_) c.cov (fun _ _ => nofun), c.canc, c.sig⟩
  -- another thread: its work list is untouched; the snapshot changes only when nobody else is inside
  rcases hsnap with e | hp
  · exact fun y hy => (inv.cov x (v.others_mem x h) l hl y (e ▸ hy)).imp_right (mono y)
  · have hw := g.win
    have b := b2n_le s.sh.disposed
    have hx1 : winS x = 1 := work_winS hl
    have := le_tot (m := winS) h
    have : 0 < winS th := hp
    exact absurd (v.before winS) (by omega)

end Godi.Conc
