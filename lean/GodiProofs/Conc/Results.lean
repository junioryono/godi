import GodiProofs.Conc.Basic
/-! Which results each kind of API call can return (thread-local: follows the program text). -/
namespace Godi.Conc

/-- the documented outcomes of the call that was started at `st` -/
def Res.okFor (st : Pc) (r : Res) : Bool :=
  match st, r with
  | .rChk k false, .ok k' _ => k == k'
  | .rChk _ false, .disposed => true
  | .rChk _ false, .ctorErr => true
  | .tChk, .okT _ => true
  | .tChk, .disposed => true
  | .tChk, .ctorErr => true
  | .gChk, .okS => true
  | .gChk, .disposed => true
  | .gChk, .notInit => true
  | .gChk, .provDisposed => true
  | .sChk, .okChild _ => true
  | .sChk, .disposed => true
  | .sChk, .provDisposed => true
  | .sChk, .initErr => true
  | .cCas (.ret .okUnit), .okUnit => true
  | .pCas, .okUnit => true
  | .wS, .okUnit => true
  | .wKid _, .okUnit => true
  | .xCancel, .okUnit => true
  | _, _ => false

def K.okFor (st : Pc) : K → Bool
  | .ret r => r.okFor st
  | .kids _ k => k.okFor st && (st == .cCas (.ret .okUnit) || st == .pCas || st == .wS)
  | .scopes _ => st == .pCas

/-- the key whose resolution the user asked for -/
def topKey (k : Key) (o : Bool) : Key := if o then .a else k

/-- `pc` belongs to the program started at `st` -/
def Fam (st : Pc) : Pc → Bool
  | .done r => r.okFor st
  | .rChk k o | .rRead k o | .rMu k o | .rLock k o | .rRe k o | .rCtor k o | .rSet k o _ | .rTrk k o _
  | .rSelf k o _ => st == .rChk (topKey k o) false
  | .rUnl k o r => st == .rChk (topKey k o) false && (r.inst.isSome || r.okFor st)
  | .tChk | .tCtor | .tTrk _ | .tSelf _ => st == .tChk
  | .gChk | .gLoad | .gMiss1 | .gMiss2 => st == .gChk
  | .sChk | .sInit | .sAdd _ | .sReg _ | .sRe _ | .sUndo _ | .sSpawn _ => st == .sChk
  | .kCas _ k | .kWait _ k | .kDetP _ k | .kDetS _ k | .kSig _ k => k.okFor st
  | .cCas k | .cWait k | .cCancel _ k | .cTake k | .cKids _ k | .cTakeD k | .cDrain _ k | .cDetS k | .cNil k | .cErr k
  | .cSig k => k.okFor st && (st == .cCas (.ret .okUnit) || st == .pCas || st == .wS)
  | .pCas | .pTake | .pScopes _ | .pRest => st == .pCas
  | .wS => st == .wS
  | .wKid c => st == .wKid c
  | .xCancel => st == .xCancel

/-- Inside a call the program text leads from one pc of its family to the next (`hf` again). Where a
call ends, or a `Close` is called from another family, `hf` says which program this is, and the result
is one of its documented ones by computation. -/
theorem act_fam {c : Cfg} {s s' : Sh} {st pc pc' : Pc} {sp : List Pc} (h : Act c s pc pc' s' sp)
    (hf : Fam st pc = true) : Fam st pc' = true := by
  cases h
  case rChk_disp | rChk_disp_in | rRead_hit_in | tChk_disp | tCtor_fail | tTrk | tSelf | gChk_disp | gLoad_hit
      | gMiss1_disp | gMiss2_disp | gMiss2 | sChk_disp | sInit_fail | sAdd_nil | sReg_nil | sUndo | sSpawn
      | pCas_lost | pScopes_S | pRest | wS | wKid | xCancel =>
    all_goals cases eq_of_beq hf; rfl
  case rRead_hit k _ _ => cases eq_of_beq hf; exact beq_self_eq_true k
  case rRe_hit | rTrk => exact Bool.and_eq_true_iff.2 ⟨hf, rfl⟩
  case rRe_miss_a o _ => cases o <;> exact hf
  case rCtor_fail | rSelf => cases eq_of_beq hf; exact Bool.and_eq_true_iff.2 ⟨beq_self_eq_true _, rfl⟩
  case rUnl_ok k _ _ => cases eq_of_beq (Bool.and_eq_true_iff.1 hf).1; exact beq_self_eq_true k
  case rUnl_ok_in => cases eq_of_beq (Bool.and_eq_true_iff.1 hf).1; rfl
  case rUnl_err r hr =>
    have := (Bool.and_eq_true_iff.1 hf).2
    rwa [Res.inst_plain hr] at this
  case cWait_ret | cWait_kids | cWait_scopes | cSig_ret | cSig_kids | cSig_scopes => exact (Bool.and_eq_true_iff.1 hf).1
  all_goals exact hf

def FamSys (s : Sys) : Prop := ∀ th ∈ s.thr, Fam th.start th.pc = true

theorem FamSys.step {s s' : Sys} (inv : FamSys s) (st : Step s s') : FamSys s' := by
  obtain ⟨th, pc', sp, others, v⟩ := st.acting
  exact v.lift (fun x h => inv x (v.others_mem x h)) (act_fam v.act (inv th v.mem)) (fun ch => beq_self_eq_true (Pc.wKid ch))

end Godi.Conc
