import GodiProofs.Conc.Lock
/-! The instance cache: per scoped key at most one instance is ever written, and every instance a
resolution returns is that one. -/
namespace Godi.Conc

/-- between the second cache miss for `q` (under `q`'s creation mutex) and the write into the cache; a thread
resolving `b` on behalf of `a` (`o`) is in that stretch of `a` all the time -/
def Pc.pastRe (q : Key) : Pc → Nat
  | .rChk _ o | .rRead _ o | .rMu _ o | .rLock _ o | .rRe _ o | .rTrk _ o _ | .rSelf _ o _ | .rUnl _ o _ => b2n (o && q == .a)
  | .rCtor k o | .rSet k o _ => b2n (k == q) + b2n (o && q == .a)
  | _ => 0
def pastRe (q : Key) (th : Thr) : Nat := th.pc.pastRe q

theorem pastRe_le_holdsL (q : Key) (pc : Pc) : pc.pastRe q ≤ pc.holdsL q := by
  cases pc <;> first | exact Nat.le_refl _ | exact Nat.le_add_left _ _

/-- the instance this thread is about to return (or has returned) for a scoped key; at `rUnl k o (.ok k' i)` the
key is `k`: `unlNext` ignores `k'` -/
def Pc.claim : Pc → Option (Key × Inst)
  | .rUnl k _ r => r.inst.map (fun p => (k, p.2))
  | .done r => r.inst
  | _ => none
/-- the instance this thread has offered to the cache and is about to track -/
def Pc.tracked : Pc → Option (Key × Inst)
  | .rTrk k _ i => some (k, i)
  | _ => none

structure CacheLocal (s : Sh) (pc : Pc) : Prop where
  claim : ∀ k i, pc.claim = some (k, i) → i ∈ s.ever.get k
  tracked : ∀ k i, pc.tracked = some (k, i) → i ∈ s.ever.get k ∨ s.disposed = true

variable {c : Cfg} {s s' : Sh} {pc pc' : Pc} {sp : List Pc} {q : Key} {n : Nat}

theorem Act.cache_cases (h : Act c s pc pc' s' sp) :
    (s'.cache = s.cache ∧ s'.ever = s.ever) ∨
    (∃ k o i m, pc = .rSet k o i ∧ pc' = .rTrk k o i ∧ s.cache = some m ∧
      s'.cache = some (m.set k (some i)) ∧ s'.ever = s.ever.set k (i :: s.ever.get k)) ∨
    (s'.cache = none ∧ s'.ever = s.ever) := by
  cases h
  case rSet k o i m hm => exact .inr (.inl ⟨k, o, i, m, rfl, rfl, hm, rfl, rfl⟩)
  case cNil => exact .inr (.inr ⟨rfl, rfl⟩)
  all_goals exact .inl ⟨rfl, rfl⟩

theorem Act.pastRe_le (h : Act c s pc pc' s' sp) (q : Key) :
    pc'.pastRe q ≤ pc.pastRe q ∨ s.cacheGet q = none := by
  cases h
  case rRe_miss_a o hm => cases q <;> first | exact .inr hm | exact .inl (Nat.zero_le _)
  case rRe_miss_b o hm => cases q <;> first | exact .inr hm | exact .inl (Nat.le_of_eq (Nat.zero_add _))
  case rCtor_fail | rSet | rSet_nil => exact .inl (Nat.le_add_left _ _)
  case rRead_hit_in | rUnl_ok_in => cases q <;> exact .inl (Nat.le_refl _)
  case rChk_disp_in | rUnl_err_in => exact .inl (Nat.zero_le _)
  all_goals exact .inl (Nat.le_refl _)

/-- `CacheInv` for key `q` as the acting thread sees it; `n` is the others' contribution (`Acting`) to
`tot (pastRe q)` -/
structure CacheAt (s : Sh) (pc : Pc) (q : Key) (n : Nat) : Prop where
  c1 : s.cache.isSome = true → s.ever.get q = (s.cacheGet q).toList
  c2 : (s.ever.get q).length ≤ 1
  c3 : 0 < n + pc.pastRe q → s.cache = none ∨ s.ever.get q = []

/-- `hone`: whoever is between miss and write holds `q`'s mutex, so there is at most one such thread -/
theorem act_cache (h : Act c s pc pc' s' sp) (hone : n + pc.pastRe q ≤ 1) (g : CacheAt s pc q n) :
    CacheAt s' pc' q n ∧ ∀ i, i ∈ s.ever.get q → i ∈ s'.ever.get q := by
  obtain ⟨c1, c2, c3⟩ := g
  have hp := h.pastRe_le q
  rcases h.cache_cases with ⟨ec, ee⟩ | ⟨k, o, i, m, rfl, rfl, hm, ec, ee⟩ | ⟨ec, ee⟩
  · refine ⟨⟨?_, ?_, ?_⟩, ?_⟩ <;> simp only [ec, ee, Sh.cacheGet]
    · exact c1
    · exact c2
    · intro h0
      rcases hp with hp | hmiss
      · exact c3 (by omega)
      · -- the miss happened under `q`'s mutex: by `c1` nothing has been written for `q`
        cases hc : s.cache with
        | none => exact .inl rfl
        | some m => exact .inr (by rw [c1 (by rw [hc]; rfl), hmiss]; rfl)
    · exact fun _ hi => hi
  · by_cases hk : k = q
    · -- the writer is the one thread past the miss for `q`, so this is the first write
      subst hk
      have he : s.ever.get k = [] := (c3 (by simp [Pc.pastRe]; omega)).resolve_left (by simp [hm])
      refine ⟨⟨?_, ?_, ?_⟩, ?_⟩ <;> simp only [ec, ee, Sh.cacheGet, KV.get_set_same, he]
      · exact fun _ => rfl
      · exact Nat.le_refl _
      · exact fun hp => absurd hp (by simp [Pc.pastRe] at hone ⊢; omega)
      · exact nofun
    · have hp' : (Pc.rTrk k o i).pastRe q = (Pc.rSet k o i).pastRe q := by
        simp only [Pc.pastRe, beq_false_of_ne hk, b2n_false, Nat.zero_add]
      have eg : s.cacheGet q = m.get q := by unfold Sh.cacheGet; rw [hm]
      refine ⟨⟨?_, ?_, ?_⟩, ?_⟩ <;> simp only [ec, ee, Sh.cacheGet, KV.get_set_ne _ _ _ _ hk, hp', ← eg]
      · exact fun _ => c1 (by simp [hm])
      · exact c2
      · exact fun h0 => .inr ((c3 h0).resolve_left (by simp [hm]))
      · exact fun _ hi => hi
  · exact ⟨⟨fun hs => (nomatch ec ▸ hs), ee ▸ c2, fun _ => .inl ec⟩, fun _ hi => ee ▸ hi⟩

theorem mem_ever_of_hit {k : Key} {i : Inst}
    (c1 : s.cache.isSome = true → s.ever.get k = (s.cacheGet k).toList) (hg : s.cacheGet k = some i) :
    i ∈ s.ever.get k := by
  have hs : s.cache.isSome = true := by
    cases hc : s.cache
    · rw [Sh.cacheGet_none s k hc] at hg; cases hg
    · rfl
  rw [c1 hs, hg]
  exact List.mem_singleton_self i

/-- A thread claims an instance after a hit, after its own write, or after `track` has seen
`disposed = 0` for what it offered; a frame and an error result carry none. -/
theorem act_cache_local (h : Act c s pc pc' s' sp) (hw : pc.wf = true) (dCache : s.cache = none → s.disposed = true)
    (l : CacheLocal s pc) (c1 : ∀ q, s.cache.isSome = true → s.ever.get q = (s.cacheGet q).toList) :
    CacheLocal s' pc' := by
  cases h
  case rRead_hit k i hg | rRe_hit k _ i hg =>
    all_goals exact { l with claim := fun _ _ hc => by cases hc; exact mem_ever_of_hit (c1 k) hg }
  case rSet k o i m hm => exact ⟨nofun, fun _ _ ht => by cases ht; exact .inl (by simp)⟩
  case rSet_nil hn => exact { l with tracked := fun _ _ _ => .inr (dCache hn) }
  case rTrk k o i hd =>
    exact ⟨fun _ _ hc => by cases hc; exact (l.tracked k i rfl).resolve_right (by simp [hd]), nofun⟩
  case rTrk_late | rUnl_ok_in | cCas => exact ⟨nofun, nofun⟩
  case rUnl_err r hr | rUnl_err_in r hr =>
    all_goals exact { l with claim := fun _ _ hc => by simp [Pc.claim, Res.inst_plain hr] at hc }
  case kWait_ret r _ | kSig_ret r | cWait_ret r _ | cSig_ret r =>
    all_goals
      simp only [Pc.wf, K.wf, K.top, Bool.and_eq_true] at hw
      exact ⟨fun _ _ hc => (nomatch (Res.inst_plain hw.1).symm.trans hc), nofun⟩
  all_goals exact { l with }

structure CacheInv (s : Sys) : Prop where
  c1 : ∀ q, s.sh.cache.isSome = true → s.sh.ever.get q = (s.sh.cacheGet q).toList
  c2 : ∀ q, (s.sh.ever.get q).length ≤ 1
  c3 : ∀ q, 0 < tot (pastRe q) s.thr → s.sh.cache = none ∨ s.sh.ever.get q = []
  loc : ∀ th ∈ s.thr, CacheLocal s.sh th.pc

theorem CacheInv.step {s s' : Sys} (wf : WfSys s) (g : Gate s) (lk : LockInv s) (inv : CacheInv s)
    (st : Step s s') : CacheInv s' := by
  obtain ⟨th, pc', sp, others, v⟩ := st.acting
  have key (q) : CacheAt s'.sh pc' q (tot (pastRe q) others) ∧ ∀ i, i ∈ s.sh.ever.get q → i ∈ s'.sh.ever.get q := by
    have hn := v.before (pastRe q)
    have h1 := tot_le (m := pastRe q) (m' := holdsL q) (fun t => pastRe_le_holdsL q t.pc) s.thr
    have h2 := lk.held q
    have h3 := b2n_le (s.sh.lock.get q)
    exact act_cache v.act (hn ▸ (by omega)) ⟨inv.c1 q, inv.c2 q, hn ▸ inv.c3 q⟩
  refine ⟨fun q => (key q).1.c1, fun q => (key q).1.c2, fun q => v.after (pastRe q) (fun _ => rfl) ▸ (key q).1.c3,
    v.lift (fun x h => ?_) (act_cache_local v.act (wf th v.mem) g.dCache (inv.loc th v.mem) inv.c1) (fun _ => ⟨nofun, nofun⟩)⟩
  have old := inv.loc x (v.others_mem x h)
  exact ⟨fun k i hc => (key k).2 i (old.claim k i hc),
    fun k i ht => (old.tracked k i ht).imp ((key k).2 i) (act_stable v.act).disposed⟩

end Godi.Conc
