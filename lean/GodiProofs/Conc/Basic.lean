import GodiProofs.Conc.Act
/-! The invariants of M6 count threads: `tot m` sums a measure `m` over the thread list, and a step changes it
by the acting thread's share only (`Acting`). Each measure is written twice, on program counters (`Pc.winS`)
and on threads (`winS th = th.pc.winS`), because `tot` takes the latter. -/
namespace Godi.Conc

def b2n (b : Bool) : Nat := if b then 1 else 0
@[simp] theorem b2n_true : b2n true = 1 := rfl
@[simp] theorem b2n_false : b2n false = 0 := rfl
@[simp] theorem Key.beq_aa : (Key.a == Key.a) = true := by decide
@[simp] theorem Key.beq_bb : (Key.b == Key.b) = true := by decide
theorem b2n_le (b : Bool) : b2n b ≤ 1 := by cases b <;> simp
theorem b2n_pos {b : Bool} (h : 0 < b2n b) : b = true := by cases b <;> first | rfl | cases h

def tot (m : Thr → Nat) (l : List Thr) : Nat := (l.map m).sum

@[simp] theorem tot_nil (m : Thr → Nat) : tot m [] = 0 := rfl
@[simp] theorem tot_cons (m : Thr → Nat) (t : Thr) (l : List Thr) : tot m (t :: l) = m t + tot m l := by
  simp [tot]
@[simp] theorem tot_append (m : Thr → Nat) (l₁ l₂ : List Thr) : tot m (l₁ ++ l₂) = tot m l₁ + tot m l₂ := by
  simp [tot]

theorem tot_pos {m : Thr → Nat} {l : List Thr} (h : 0 < tot m l) : ∃ t ∈ l, 0 < m t := by
  obtain ⟨x, hx, hp⟩ := List.sum_pos_iff_exists_pos_nat.1 h
  obtain ⟨t, ht, rfl⟩ := List.mem_map.1 hx
  exact ⟨t, ht, hp⟩

theorem le_tot {m : Thr → Nat} {l : List Thr} {t : Thr} (h : t ∈ l) : m t ≤ tot m l := by
  induction l with
  | nil => simp at h
  | cons x xs ih =>
    simp only [List.mem_cons] at h
    simp only [tot_cons]
    rcases h with rfl | h
    · omega
    · have := ih h; omega

theorem tot_zero {m : Thr → Nat} {l : List Thr} (h : tot m l = 0) : ∀ t ∈ l, m t = 0 :=
  fun _ ht => Nat.le_zero.1 (h ▸ le_tot ht)

theorem tot_zero_of {m : Thr → Nat} {l : List Thr} (h : ∀ t ∈ l, m t = 0) : tot m l = 0 :=
  List.sum_eq_zero_iff_forall_eq_nat.2 fun _ hx => by obtain ⟨t, ht, rfl⟩ := List.mem_map.1 hx; exact h t ht

theorem tot_le {m m' : Thr → Nat} (h : ∀ t, m t ≤ m' t) (l : List Thr) : tot m l ≤ tot m' l := by
  induction l with
  | nil => simp
  | cons x xs ih => simp only [tot_cons]; have := h x; omega

theorem step_iff (s s' : Sys) : Step s s' ↔ ∃ t, step? s t = some s' := by
  constructor
  · rintro ⟨sh, pre, post, th, pc', sh', sp, hact⟩
    exact ⟨pre.length, by simp [step?, hact]⟩
  · rintro ⟨t, h⟩
    obtain ⟨sh, thr⟩ := s
    unfold step? at h
    split at h
    · cases h
    · rename_i th hth
      split at h
      · cases h
      · rename_i pc' sh' sp hact
        cases h
        obtain ⟨ht, rfl⟩ := List.getElem?_eq_some_iff.1 hth
        have e : thr = thr.take t ++ thr[t] :: thr.drop (t + 1) := by simp
        rw [List.set_eq_take_append_cons_drop, if_pos ht]
        conv => lhs; rw [e]
        exact Step.mk _ _ _ _ _ _ _ hact

theorem Reach.trans {a b c : Sys} (h1 : Reach a b) (h2 : Reach b c) : Reach a c := by
  induction h2 with
  | refl => exact h1
  | step _ st ih => exact Reach.step ih st

@[simp] theorem spawn_nil : spawn [] = [] := rfl
@[simp] theorem spawn_cons (p : Pc) (l : List Pc) : spawn (p :: l) = { start := p, pc := p } :: spawn l := rfl

theorem Act.spawned {c : Cfg} {s s' : Sh} {pc pc' : Pc} {sp : List Pc} (h : Act c s pc pc' s' sp) :
    sp = [] ∨ ∃ ch, sp = [.wKid ch] := by
  cases h
  case sSpawn ch => exact .inr ⟨ch, rfl⟩
  all_goals exact .inl rfl

/-- A step as the invariants see it: thread `th` performs one action and goes on at `pc'`, the `others`
stay as they are, a watcher may be started. An invariant about `tot m thr` then speaks of `n + m th` with
`n = tot m others`, the others' contribution, which the step does not change: this is the `n` in the
lemmas about one action and in `GateAt`, `OnceAt`, `CacheAt`. -/
structure Acting (s s' : Sys) (th : Thr) (pc' : Pc) (sp : List Pc) (others : List Thr) : Prop where
  mem : th ∈ s.thr
  others_mem : ∀ x ∈ others, x ∈ s.thr
  act : Act th.cfg s.sh th.pc pc' s'.sh sp
  before : ∀ m : Thr → Nat, tot m s.thr = tot m others + m th
  after : ∀ m : Thr → Nat, (∀ ch, m { start := .wKid ch, pc := .wKid ch } = 0) →
    tot m s'.thr = tot m others + m { th with pc := pc' }
  lift : ∀ {P : Thr → Prop}, (∀ x ∈ others, P x) → P { th with pc := pc' } →
    (∀ ch, P { start := .wKid ch, pc := .wKid ch }) → ∀ x ∈ s'.thr, P x

theorem Step.acting {s s' : Sys} (h : Step s s') : ∃ th pc' sp others, Acting s s' th pc' sp others := by
  cases h with
  | mk sh pre post th pc' sh' sp hact =>
    have ha := Act.of_act hact
    refine ⟨th, pc', sp, pre ++ post, by simp, fun x hx => ?_, ha, fun m => ?_, fun m hm => ?_, fun ho ha' hw x hx => ?_⟩
    · simp only [List.mem_append, List.mem_cons] at hx ⊢
      exact hx.imp_right .inr
    · simp only [tot_append, tot_cons]; omega
    · rcases ha.spawned with rfl | ⟨ch, rfl⟩
      · simp only [tot_append, tot_cons, spawn_nil, tot_nil]; omega
      · have := hm ch
        simp only [tot_append, tot_cons, spawn_cons, spawn_nil, tot_nil]; omega
    · simp only [List.mem_append, List.mem_cons] at hx
      rcases hx with (hx | rfl | hx) | hx
      · exact ho x (List.mem_append_left _ hx)
      · exact ha'
      · exact ho x (List.mem_append_right _ hx)
      · rcases ha.spawned with rfl | ⟨ch, rfl⟩
        · cases hx
        · exact List.mem_singleton.1 hx ▸ hw ch

end Godi.Conc
