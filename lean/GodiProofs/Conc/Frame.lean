import GodiModel.Conc
/-! What the state updates of `Sh` do: a Go map write on a table that is there (`*_some`), a `delete`, an
`append` (`dispAppend_eq`, the nil slice included). -/
namespace Godi.Conc.Sh

@[simp] theorem cacheWrite_nextC (s : Sh) (k : Key) (i : Inst) : (s.cacheWrite k i).nextC = s.nextC := by
  unfold cacheWrite; split <;> rfl
@[simp] theorem childWrite_nextC (s : Sh) (c : Cid) : (s.childWrite c).nextC = s.nextC := by
  unfold childWrite; split <;> rfl
@[simp] theorem scopeWrite_nextC (s : Sh) (c : Nat) : (s.scopeWrite c).nextC = s.nextC := by
  unfold scopeWrite; split <;> rfl
@[simp] theorem childDelete_nextC (s : Sh) (c : Cid) : (s.childDelete c).nextC = s.nextC := by
  unfold childDelete; rfl
@[simp] theorem scopeDelete_nextC (s : Sh) (c : Nat) : (s.scopeDelete c).nextC = s.nextC := by
  unfold scopeDelete; rfl
@[simp] theorem dispAppend_nextC (s : Sh) (i : Inst) : (s.dispAppend i).nextC = s.nextC := by
  unfold dispAppend; split <;> rfl
@[simp] theorem alloc_nextC (s : Sh)  : (s.alloc).nextC = s.nextC := by
  unfold alloc; rfl
@[simp] theorem userClose_nextC (s : Sh) (i : Inst) : (s.userClose i).nextC = s.nextC := by
  unfold userClose; rfl
theorem cacheWrite_some (s : Sh) (k : Key) (i : Inst) (c : KV (Option Inst)) (h : s.cache = some c) :
    (s.cacheWrite k i).cache = some (c.set k (some i)) ∧ (s.cacheWrite k i).ever = s.ever.set k (i :: s.ever.get k) ∧
    (s.cacheWrite k i).panicked = s.panicked := by
  unfold cacheWrite; rw [h]; exact ⟨rfl, rfl, rfl⟩
theorem childWrite_some (s : Sh) (c : Cid) (l : List Cid) (h : s.children = some l) :
    (s.childWrite c).children = some (c :: l) ∧ (s.childWrite c).panicked = s.panicked := by
  unfold childWrite; rw [h]; exact ⟨rfl, rfl⟩
theorem scopeWrite_some (s : Sh) (c : Nat) (l : List Nat) (h : s.scopes = some l) :
    (s.scopeWrite c).scopes = some (c :: l) ∧ (s.scopeWrite c).panicked = s.panicked := by
  unfold scopeWrite; rw [h]; exact ⟨rfl, rfl⟩
theorem dispAppend_some (s : Sh) (i : Inst) (l : List Inst) (h : s.disposables = some l) :
    (s.dispAppend i).disposables = some (l ++ [i]) ∧ (s.dispAppend i).resurrected = s.resurrected := by
  unfold dispAppend; rw [h]; exact ⟨rfl, rfl⟩
@[simp] theorem childDelete_children (s : Sh) (c : Cid) : (s.childDelete c).children = s.children.map (·.filter (· != c)) := rfl
@[simp] theorem scopeDelete_scopes (s : Sh) (c : Nat) : (s.scopeDelete c).scopes = s.scopes.map (·.filter (· != c)) := rfl
@[simp] theorem alloc_nextI (s : Sh) : s.alloc.nextI = s.nextI + 1 := rfl
@[simp] theorem alloc_created (s : Sh) : s.alloc.created = s.nextI :: s.created := rfl
@[simp] theorem userClose_closed (s : Sh) (i : Inst) : (s.userClose i).closed = i :: s.closed := rfl
theorem dispAppend_eq (s : Sh) (i : Inst) :
    s.dispAppend i = { s with disposables := some (s.disposables.getD [] ++ [i]),
                              resurrected := s.resurrected || s.disposables.isNone } := by
  cases hd : s.disposables <;> simp [dispAppend, hd]
theorem isSome_cases {α} (o : Option α) (h : o.isSome = true) : ∃ x, o = some x := by
  cases o <;> simp_all
theorem not_isNone_cases {α} (o : Option α) (h : ¬ o.isNone = true) : ∃ x, o = some x := by
  cases o <;> simp_all
theorem cacheGet_none (s : Sh) (k : Key) (h : s.cache = none) : s.cacheGet k = none := by
  unfold cacheGet; rw [h]
theorem cacheGet_some (s : Sh) (k : Key) (c : KV (Option Inst)) (h : s.cache = some c) : s.cacheGet k = c.get k := by
  unfold cacheGet; rw [h]
end Godi.Conc.Sh
