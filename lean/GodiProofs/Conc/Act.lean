import GodiProofs.Conc.Frame
/-! The transition relation of one thread, branch by branch. -/
namespace Godi.Conc

/-- results that carry no scoped instance (what a `Close`, a `CreateScope` … may return) -/
def Res.plain : Res → Bool
  | .ok _ _ => false
  | _ => true
def Res.inst : Res → Option (Key × Inst)
  | .ok k i => some (k, i)
  | _ => none
@[simp] theorem Res.inst_ok (k : Key) (i : Inst) : (Res.ok k i).inst = some (k, i) := rfl
@[simp] theorem Res.inst_okT (i : Inst) : (Res.okT i).inst = none := rfl
@[simp] theorem Res.inst_okS : Res.okS.inst = none := rfl
@[simp] theorem Res.inst_okChild (c : Cid) : (Res.okChild c).inst = none := rfl
@[simp] theorem Res.inst_okUnit : Res.okUnit.inst = none := rfl
@[simp] theorem Res.inst_disposed : Res.disposed.inst = none := rfl
@[simp] theorem Res.inst_provDisposed : Res.provDisposed.inst = none := rfl
@[simp] theorem Res.inst_ctorErr : Res.ctorErr.inst = none := rfl
@[simp] theorem Res.inst_initErr : Res.initErr.inst = none := rfl
@[simp] theorem Res.inst_notInit : Res.notInit.inst = none := rfl
theorem Res.inst_plain {r : Res} (h : r.plain = true) : r.inst = none := by
  cases r <;> simp_all [Res.plain, Res.inst]

/-- `act` as a relation with one constructor per branch: the guard of the branch is a hypothesis, the
successor is written out (`afterOk`, `afterFail`, `afterMiss`, `unlNext` are resolved by a case on
`o`, `k`, `r`, `resume` by a case on the frame), and a guarded table write shows the table it found, so that no
write in here can hit a nil table. Every step of `act` is one of these (`Act.of_act`); invariants are
proved by `cases` on it. -/
inductive Act (c : Cfg) (s : Sh) : Pc → Pc → Sh → List Pc → Prop
  | rChk_disp (k) : s.disposed = true → Act c s (.rChk k false) (.done .disposed) s []
  | rChk_disp_in (k) : s.disposed = true → Act c s (.rChk k true) (.rUnl .a false .disposed) s []
  | rChk (k o) : s.disposed = false → Act c s (.rChk k o) (.rRead k o) s []
  | rRead_hit (k i) : s.cacheGet k = some i → Act c s (.rRead k false) (.done (.ok k i)) s []
  | rRead_hit_in (k i) : s.cacheGet k = some i → Act c s (.rRead k true) (.rCtor .a false) s []
  | rRead_miss (k o) : s.cacheGet k = none → Act c s (.rRead k o) (.rMu k o) s []
  | rMu (k o) : Act c s (.rMu k o) (.rLock k o) s []
  | rLock (k o) : s.lock.get k = false → Act c s (.rLock k o) (.rRe k o) { s with lock := s.lock.set k true } []
  | rRe_hit (k o i) : s.cacheGet k = some i → Act c s (.rRe k o) (.rUnl k o (.ok k i)) s []
  | rRe_miss_a (o) : s.cacheGet .a = none → Act c s (.rRe .a o) (.rChk .b true) s []
  | rRe_miss_b (o) : s.cacheGet .b = none → Act c s (.rRe .b o) (.rCtor .b o) s []
  | rCtor_fail (k o) : c.fails k = true → Act c s (.rCtor k o) (.rUnl k o .ctorErr) s []
  | rCtor (k o) : c.fails k = false → Act c s (.rCtor k o) (.rSet k o s.nextI) s.alloc []
  | rSet (k o i m) : s.cache = some m →
      Act c s (.rSet k o i) (.rTrk k o i)
        { s with cache := some (m.set k (some i)), ever := s.ever.set k (i :: s.ever.get k) } []
  | rSet_nil (k o i) : s.cache = none → Act c s (.rSet k o i) (.rTrk k o i) s []
  | rTrk_late (k o i) : s.disposed = true → Act c s (.rTrk k o i) (.rSelf k o i) s []
  | rTrk (k o i) : s.disposed = false → Act c s (.rTrk k o i) (.rUnl k o (.ok k i))
        { s with disposables := some (s.disposables.getD [] ++ [i]), resurrected := s.resurrected || s.disposables.isNone } []
  | rSelf (k o i) : Act c s (.rSelf k o i) (.rUnl k o .disposed) (s.userClose i) []
  | rUnl_ok (k k' i) : Act c s (.rUnl k false (.ok k' i)) (.done (.ok k i)) { s with lock := s.lock.set k false } []
  | rUnl_ok_in (k k' i) : Act c s (.rUnl k true (.ok k' i)) (.rCtor .a false) { s with lock := s.lock.set k false } []
  | rUnl_err (k r) : r.plain = true → Act c s (.rUnl k false r) (.done r) { s with lock := s.lock.set k false } []
  | rUnl_err_in (k r) : r.plain = true →
      Act c s (.rUnl k true r) (.rUnl .a false r) { s with lock := s.lock.set k false } []
  | tChk_disp : s.disposed = true → Act c s .tChk (.done .disposed) s []
  | tChk : s.disposed = false → Act c s .tChk .tCtor s []
  | tCtor_fail : c.failT = true → Act c s .tCtor (.done .ctorErr) s []
  | tCtor : c.failT = false → Act c s .tCtor (.tTrk s.nextI) s.alloc []
  | tTrk_late (i) : s.disposed = true → Act c s (.tTrk i) (.tSelf i) s []
  | tTrk (i) : s.disposed = false → Act c s (.tTrk i) (.done (.okT i))
        { s with disposables := some (s.disposables.getD [] ++ [i]), resurrected := s.resurrected || s.disposables.isNone } []
  | tSelf (i) : Act c s (.tSelf i) (.done .disposed) (s.userClose i) []
  | gChk_disp : s.disposed = true → Act c s .gChk (.done .disposed) s []
  | gChk : s.disposed = false → Act c s .gChk .gLoad s []
  | gLoad_hit : s.singletons = true → Act c s .gLoad (.done .okS) s []
  | gLoad_miss : s.singletons = false → Act c s .gLoad .gMiss1 s []
  | gMiss1_disp : s.disposed = true → Act c s .gMiss1 (.done .disposed) s []
  | gMiss1 : s.disposed = false → Act c s .gMiss1 .gMiss2 s []
  | gMiss2_disp : s.pdisposed = true → Act c s .gMiss2 (.done .provDisposed) s []
  | gMiss2 : s.pdisposed = false → Act c s .gMiss2 (.done .notInit) s []
  | sChk_disp : s.disposed = true → Act c s .sChk (.done .disposed) s []
  | sChk : s.disposed = false → Act c s .sChk .sInit s []
  | sInit_fail : c.failInit = true →
      Act c s .sInit (.kCas s.nextC (.ret .initErr)) { s with nextC := s.nextC + 1 } []
  | sInit : c.failInit = false → Act c s .sInit (.sAdd s.nextC) { s with nextC := s.nextC + 1 } []
  | sAdd_nil (ch) : s.children = none → Act c s (.sAdd ch) (.kCas ch (.ret .disposed)) s []
  | sAdd (ch l) : s.children = some l → Act c s (.sAdd ch) (.sReg ch) { s with children := some (ch :: l) } []
  | sReg_nil (ch) : s.scopes = none → Act c s (.sReg ch) (.kCas ch (.ret .provDisposed)) s []
  | sReg (ch l) : s.scopes = some l → Act c s (.sReg ch) (.sRe ch) { s with scopes := some (ch :: l) } []
  | sRe_disp (ch) : ch ∈ s.kidDisp → Act c s (.sRe ch) (.sUndo ch) s []
  | sRe (ch) : ch ∉ s.kidDisp → Act c s (.sRe ch) (.sSpawn ch) s []
  | sUndo (ch) : Act c s (.sUndo ch) (.done .disposed) (s.scopeDelete ch) []
  | sSpawn (ch) : Act c s (.sSpawn ch) (.done (.okChild ch)) s [.wKid ch]
  | kCas_lost (ch k) : ch ∈ s.kidDisp → Act c s (.kCas ch k) (.kWait ch k) s []
  | kCas (ch k) : ch ∉ s.kidDisp → Act c s (.kCas ch k) (.kDetP ch k) { s with kidDisp := ch :: s.kidDisp } []
  | kWait_ret (ch r) : ch ∈ s.kidClosed → Act c s (.kWait ch (.ret r)) (.done r) s []
  | kWait_kids (ch rest k) : ch ∈ s.kidClosed → Act c s (.kWait ch (.kids rest k)) (.cKids rest k) s []
  | kWait_scopes (ch rest) : ch ∈ s.kidClosed → Act c s (.kWait ch (.scopes rest)) (.pScopes rest) s []
  | kDetP (ch k) : Act c s (.kDetP ch k) (.kDetS ch k) (s.childDelete ch) []
  | kDetS (ch k) : Act c s (.kDetS ch k) (.kSig ch k) (s.scopeDelete ch) []
  | kSig_ret (ch r) : Act c s (.kSig ch (.ret r)) (.done r) { s with kidClosed := ch :: s.kidClosed } []
  | kSig_kids (ch rest k) : Act c s (.kSig ch (.kids rest k)) (.cKids rest k) { s with kidClosed := ch :: s.kidClosed } []
  | kSig_scopes (ch rest) : Act c s (.kSig ch (.scopes rest)) (.pScopes rest) { s with kidClosed := ch :: s.kidClosed } []
  | cCas_lost (k) : s.disposed = true → Act c s (.cCas k) (.cWait k) s []
  | cCas (k) : s.disposed = false →
      Act c s (.cCas k) (.cTake k) { s with disposed := true, casWins := s.casWins + 1 } []
  | cWait_ret (r) : s.closedSig = true → Act c s (.cWait (.ret r)) (.done r) s []
  | cWait_kids (rest k) : s.closedSig = true → Act c s (.cWait (.kids rest k)) (.cKids rest k) s []
  | cWait_scopes (rest) : s.closedSig = true → Act c s (.cWait (.scopes rest)) (.pScopes rest) s []
  | cTake (k) :
      Act c s (.cTake k) (.cCancel (order c (s.children.getD [])) k)
        { s with children := none, snap := order c (s.children.getD []) } []
  | cCancel (l k) : Act c s (.cCancel l k) (.cKids l k) { s with cancelled := true } []
  | cKids_nil (k) : Act c s (.cKids [] k) (.cTakeD k) s []
  | cKids_cons (ch rest k) : Act c s (.cKids (ch :: rest) k) (.kCas ch (.kids rest k)) s []
  | cTakeD (k) : Act c s (.cTakeD k) (.cDrain (s.disposables.getD []).reverse k) { s with disposables := none } []
  | cDrain_nil (k) : Act c s (.cDrain [] k) (.cDetS k) s []
  | cDrain_cons (i rest k) : Act c s (.cDrain (i :: rest) k) (.cDrain rest k) (s.userClose i) []
  | cDetS (k) : Act c s (.cDetS k) (.cNil k) (s.scopeDelete 0) []
  | cNil (k) : Act c s (.cNil k) (.cErr k) { s with cache := none } []
  | cErr (k) : Act c s (.cErr k) (.cSig k) { s with errSet := true } []
  | cSig_ret (r) : Act c s (.cSig (.ret r)) (.done r) { s with closedSig := true } []
  | cSig_kids (rest k) : Act c s (.cSig (.kids rest k)) (.cKids rest k) { s with closedSig := true } []
  | cSig_scopes (rest) : Act c s (.cSig (.scopes rest)) (.pScopes rest) { s with closedSig := true } []
  | pCas_lost : s.pdisposed = true → Act c s .pCas (.done .okUnit) s []
  | pCas : s.pdisposed = false → Act c s .pCas .pTake { s with pdisposed := true } []
  | pTake : Act c s .pTake (.pScopes (order c (s.scopes.getD []))) { s with scopes := none } []
  | pScopes_nil : Act c s (.pScopes []) .pRest s []
  | pScopes_S (rest) : Act c s (.pScopes (0 :: rest)) (.cCas (.scopes rest)) s []
  | pScopes_kid (x rest) : x ≠ 0 → Act c s (.pScopes (x :: rest)) (.kCas x (.scopes rest)) s []
  | pRest : Act c s .pRest (.done .okUnit) { s with singletons := false } []
  | wS : s.cancelled = true → Act c s .wS (.cCas (.ret .okUnit)) s []
  | wKid (ch) : (s.cancelled = true ∨ ch ∈ s.kidDisp) → Act c s (.wKid ch) (.kCas ch (.ret .okUnit)) s []
  | xCancel : Act c s .xCancel (.done .okUnit) { s with cancelled := true, userCancelled := true } []

theorem Act.of_act {c : Cfg} {s s' : Sh} {pc pc' : Pc} {sp : List Pc}
    (h : act c s pc = some (pc', s', sp)) : Act c s pc pc' s' sp := by
  cases pc
  case rChk k o =>
    simp only [act] at h; split at h <;> cases h
    · cases o <;> constructor <;> assumption
    · exact .rChk k o (Bool.eq_false_iff.2 ‹_›)
  case rRead k o =>
    simp only [act] at h; split at h <;> cases h
    · cases o <;> constructor <;> assumption
    · exact .rRead_miss k o ‹_›
  case rRe k o =>
    simp only [act] at h; split at h <;> cases h
    · exact .rRe_hit k o _ ‹_›
    · cases k <;> constructor <;> assumption
  case rUnl k o r => cases h; cases o <;> cases r <;> constructor <;> rfl
  case kWait ch k => simp only [act] at h; split at h <;> cases h; cases k <;> constructor <;> assumption
  case cWait k => simp only [act] at h; split at h <;> cases h; cases k <;> constructor <;> assumption
  case kSig ch k | cSig k => all_goals cases h; cases k <;> constructor
  case rSet k o i =>
    cases hm : s.cache <;> simp only [act, Sh.cacheWrite, hm, Option.isSome_none, Option.isSome_some,
      Bool.false_eq_true, if_true, if_false] at h <;> cases h
    · exact .rSet_nil k o i hm
    · exact .rSet k o i _ hm
  case sAdd ch =>
    cases hl : s.children <;> simp only [act, Sh.childWrite, hl, Option.isNone_none, Option.isNone_some,
      Bool.false_eq_true, if_true, if_false] at h <;> cases h
    · exact .sAdd_nil ch hl
    · exact .sAdd ch _ hl
  case sReg ch =>
    cases hl : s.scopes <;> simp only [act, Sh.scopeWrite, hl, Option.isNone_none, Option.isNone_some,
      Bool.false_eq_true, if_true, if_false] at h <;> cases h
    · exact .sReg_nil ch hl
    · exact .sReg ch _ hl
  case pScopes l =>
    simp only [act] at h; repeat' split at h
    all_goals cases h
    · exact .pScopes_nil
    · subst ‹_ = 0›; exact .pScopes_S _
    · exact .pScopes_kid _ _ ‹_›
  case wKid ch =>
    simp only [act] at h; split at h <;> cases h
    exact .wKid ch (((Bool.or_eq_true _ _).mp ‹_›).imp id of_decide_eq_true)
  all_goals
    simp only [act, Sh.dispAppend_eq] at h
    repeat' split at h
    all_goals cases h
    all_goals constructor
    all_goals first | assumption | exact Bool.eq_false_iff.2 ‹_›

end Godi.Conc
