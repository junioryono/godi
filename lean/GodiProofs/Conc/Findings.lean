import GodiProofs.Conc.Clauses
/-! Regression schedules of the findings F2 and F3 (FINDINGS.md). On the protocol as it was at d23542b
these exact schedules ended with a closed child registered in the provider's table (F2) and with
`ErrSingletonNotInitialized` (F3). On the
repaired protocol (64d7b34, 0cb30f3) the same schedules end well, and the general statements are
`C14_no_stale_child_in_provider_table` / `C13_singleton_overlap_reports_disposed` in `Clauses.lean`. -/
namespace Godi.Conc.Findings
open Godi.Conc

def thr (p : Pc) (c : Cfg := {}) : Thr := { cfg := c, start := p, pc := p }

/-- F2 regression: the creator registers the child in `S.children` (`sAdd`), `S.Close` runs from CAS
to signal (closing the child, whose own `delete(p.scopes, child)` finds nothing), then the creator
registers the child in `p.scopes` — and now sees that it is disposed, removes it again and reports
`ErrScopeDisposed`: the table is empty. -/
theorem F2_regression :
    (run (init [thr .sChk, thr (.cCas (.ret .okUnit))])
        ([0,0,0] ++ [1,1,1,1,1,1,1,1,1,1,1,1,1,1,1] ++ [0,0,0])).map
      (fun s => (s.thr.map (·.pc), s.sh.scopes, s.sh.kidClosed, s.sh.closedSig)) =
    some ([.done .disposed, .done .okUnit], some [], [1], true) := by decide

/-- F3 regression: the resolver passes the disposed check (`gChk`), `provider.Close` runs completely
(closing `S`, clearing the `sync.Map`), the lock-free read misses — and the resolver now re-reads
the scope's flag and reports `ErrScopeDisposed`. -/
theorem F3_regression :
    (run (init [thr .gChk, thr .pCas])
        ([0] ++ [1,1,1, 1,1,1,1,1,1,1,1,1,1, 1,1] ++ [0,0])).map
      (fun s => (s.thr.map (·.pc), s.sh.singletons)) =
    some ([.done .disposed, .done .okUnit], false) := by decide

/-- The other outcome of a miss, one branch of `act` in any state: with the scope's flag clear and the
provider's set, `gMiss2` reports the provider-disposed error. Its other arm, `notInit`, is never taken in
a reachable state (`C13_singleton_overlap_reports_disposed`). -/
example (c : Cfg) (s : Sh) (h : s.pdisposed = true) :
    act c s .gMiss2 = some (.done .provDisposed, s, []) := by simp [act, h]

end Godi.Conc.Findings
