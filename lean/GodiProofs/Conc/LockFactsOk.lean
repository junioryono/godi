import GodiModel.Gen.LockFacts
/-!
# Tie T2 for M6: the synchronisation skeleton of scope.go / provider.go is the one M6 was written from

`Godi.Gen.LockFacts.facts` is regenerated from the source by `extract/lockfacts` on every run.
`LockExpected.facts` below is the table the action programs of `GodiModel/Conc.lean` were written from (the
comments name the M6 action each group of events is). `facts_eq` fails as soon as a lock is moved,
removed or added, a guarded field is touched somewhere else or under other locks, a nil-assignment,
channel operation, atomic operation or call into user code is reordered, or the extractor meets a
statement it does not understand (`.unknown`).

The structural theorems are what M6 *assumes* when it treats a mutex-protected region as one atomic
action and leaves table mutexes out of the deadlock argument:
* `table_locks_flat` — no mutex is ever acquired while another one is held, none is held at a
  blocking channel receive, at a call to another function of the two files or to user code
  (`Close`, `Invoke`, `cancel`), or at a `return` (except the creation mutex `m` that
  `lockCreation` hands to its caller);
* `guarded_fields_locked` — every access to a field that has a `<field>Mu` sibling happens with that
  mutex held (reads: at least read-locked).
-/
namespace Godi.Conc.LockExpected
open Godi.LockIR

def newScope : List Ev := [
  .atomic "AddUint64" "rootProvider.scopeCounter" [],
  .call "s.runInitializers" [],
  .call "s.Close" [],
  .ret []
]

def provider_Close : List Ev := [
  .atomic "CompareAndSwapInt32" "p.disposed" [],   -- pCas (a loser returns nil at once)
  .ret [],
  .lock "p.scopesMu" [],   -- pTake [
  .read "p.scopes" ["p.scopesMu"],
  .nilAssign "p.scopes" ["p.scopesMu"],
  .unlock "p.scopesMu",   -- pTake ]
  .call "s.dispose" [],   -- pScopes -> cCas / kCas
  .call "p.rootScope.dispose" [],   -- pRest ...
  .lock "p.disposablesMu" [],
  .read "p.disposables" ["p.disposablesMu"],
  .nilAssign "p.disposables" ["p.disposablesMu"],
  .unlock "p.disposablesMu",
  .call "disposables[].Close" [],
  .lock "p.singletonKeysMu" [],
  .read "p.singletonKeys" ["p.singletonKeysMu"],
  .atomic "sync.Map.Delete" "p.singletons" ["p.singletonKeysMu"],
  .nilAssign "p.singletonKeys" ["p.singletonKeysMu"],
  .unlock "p.singletonKeysMu",
  .lock "p.voidReturnScopedDescriptorsMu" [],
  .nilAssign "p.voidReturnScopedDescriptors" ["p.voidReturnScopedDescriptorsMu"],
  .unlock "p.voidReturnScopedDescriptorsMu",
  .ret []
]

def provider_CreateScope : List Ev := [
  .atomic "LoadInt32" "p.disposed" [],
  .ret [],
  .call "newScope" [],
  .ret [],
  .lock "p.scopesMu" [],
  .read "p.scopes" ["p.scopesMu"],
  .unlock "p.scopesMu",
  .call "s.Close" [],
  .ret [],
  .write "p.scopes" ["p.scopesMu"],
  .unlock "p.scopesMu",
  .spawnBegin,
  .chanRecv "ctx.Done()" [],
  .call "s.Close" [],
  .spawnEnd,
  .ret []
]

def provider_Get : List Ev := [
  .atomic "LoadInt32" "p.disposed" [],
  .ret [],
  .call "p.rootScope.Get" [],
  .ret []
]

def provider_GetGroup : List Ev := [
  .atomic "LoadInt32" "p.disposed" [],
  .ret [],
  .call "p.rootScope.GetGroup" [],
  .ret []
]

def provider_GetKeyed : List Ev := [
  .atomic "LoadInt32" "p.disposed" [],
  .ret [],
  .call "p.rootScope.GetKeyed" [],
  .ret []
]

def provider_createAllSingletonsWithContext : List Ev := [
  .ret [],
  .chanRecv "ctx.Done()" [],
  .ret [],
  .call "p.getSingleton" [],
  .ret [],   -- the identity of a result-object field the constructor left nil (b8e004e)
  .call "p.rootScope.createInstance" [],
  .ret []
]

def provider_getSingleton : List Ev := [
  .atomic "sync.Map.Load" "p.singletons" [],   -- gLoad
  .ret []
]

def provider_setSingleton : List Ev := [
  .ret [],
  .call "p.storeSingleton" [],
  .lock "p.disposablesMu" [],
  .read "p.disposables" ["p.disposablesMu"],
  .assign "p.disposables" ["p.disposablesMu"],
  .unlock "p.disposablesMu"
]

def provider_storeSingleton : List Ev := [
  .ret [],
  .atomic "sync.Map.Store" "p.singletons" [],
  .lock "p.singletonKeysMu" [],
  .read "p.singletonKeys" ["p.singletonKeysMu"],
  .assign "p.singletonKeys" ["p.singletonKeysMu"],
  .unlock "p.singletonKeysMu"
]

def scope_Close : List Ev := [
  .call "s.dispose" []
]

def scope_CreateScope : List Ev := [
  .atomic "LoadInt32" "s.disposed" [],   -- sChk
  .ret [],
  .call "newScope" [],   -- sInit (USER initializers inside)
  .ret [],
  .lock "s.childrenMu" [],   -- sAdd [
  .read "s.children" ["s.childrenMu"],   -- sAdd: nil check inside the region
  .unlock "s.childrenMu",   -- sAdd ] (rejected)
  .call "child.Close" [],   -- kCas c (ret disposed): after the unlock
  .ret [],
  .write "s.children" ["s.childrenMu"],   -- sAdd: the write
  .unlock "s.childrenMu",   -- sAdd ]
  .lock "s.rootProvider.scopesMu" [],   -- sReg [
  .read "s.rootProvider.scopes" ["s.rootProvider.scopesMu"],   -- sReg: nil check inside the region
  .unlock "s.rootProvider.scopesMu",   -- sReg ] (rejected)
  .call "child.Close" [],   -- kCas c (ret provDisposed): after the unlock
  .ret [],
  .write "s.rootProvider.scopes" ["s.rootProvider.scopesMu"],   -- sReg: the write
  .unlock "s.rootProvider.scopesMu",   -- sReg ]
  .atomic "LoadInt32" "child.disposed" [],   -- sRe (64d7b34): was the child closed between the two registrations?
  .lock "s.rootProvider.scopesMu" [],   -- sUndo [
  .delete "s.rootProvider.scopes" ["s.rootProvider.scopesMu"],   -- sUndo: take the closed child out again
  .unlock "s.rootProvider.scopesMu",   -- sUndo ]
  .ret [],
  .spawnBegin,   -- sSpawn
  .chanRecv "ctx.Done()" [],   -- wKid
  .call "child.Close" [],   -- wKid -> kCas c (ret okUnit)
  .spawnEnd,
  .ret []
]

def scope_Get : List Ev := [
  .atomic "LoadInt32" "s.disposed" [],   -- rChk / tChk / gChk
  .ret [],
  .call "s.resolve" [],
  .ret []
]

def scope_GetGroup : List Ev := [
  .atomic "LoadInt32" "s.disposed" [],
  .ret [],
  .call "s.resolve" [],
  .ret []
]

def scope_GetKeyed : List Ev := [
  .atomic "LoadInt32" "s.disposed" [],
  .ret [],
  .call "s.resolve" [],
  .ret []
]

def scope_createInstance : List Ev := [
  .call "s.setInstance" [],
  .call "s.shareInstance" [],
  .call "invoker.Invoke" [],   -- rCtor / tCtor / the initializer (USER), after the parameters were resolved through s.Get
  .call "s.setInstance" [],
  .call "s.setInstance" [],
  .call "s.shareInstance" [],   -- nil result-object fields are remembered as constructed (b8e004e); not in M6 (no fan-out)
  .call "s.shareInstance" [],   -- so is a nil interface-typed return value of a multi-return constructor (47ef227); not in M6
  .call "s.setInstance" [],
  .call "s.setInstance" [],
  .call "s.shareInstance" []
]

def scope_dispose : List Ev := [
  .atomic "CompareAndSwapInt32" "s.disposed" [],   -- cCas
  .chanRecv "s.closed" [],   -- cWait (the loser of the CAS)
  .plainRead "s.closeErr" [],   -- cWait: read after the receive
  .ret [],
  .deferChanClose "s.closed",   -- cSig (deferred first, runs last)
  .deferClosureBegin,
  .plainWrite "s.closeErr" [],   -- cErr (deferred second, runs before cSig)
  .closureEnd,
  .lock "s.childrenMu" [],   -- cTake [ (before the cancel: 0c7a2e0)
  .read "s.children" ["s.childrenMu"],
  .nilAssign "s.children" ["s.childrenMu"],
  .unlock "s.childrenMu",   -- cTake ]
  .call "s.cancel" [],   -- cCancel
  .call "child.dispose" [],   -- cKids -> kCas ... (nested dispose of each child)
  .lock "s.disposablesMu" [],   -- cTakeD [
  .read "s.disposables" ["s.disposablesMu"],
  .nilAssign "s.disposables" ["s.disposablesMu"],
  .unlock "s.disposablesMu",   -- cTakeD ]
  .call "disposables[].Close" [],   -- cDrain (USER Close, reverse order)
  .lock "s.parentScope.childrenMu" [],   -- kDetP [ (skipped for S: parentScope == nil)
  .delete "s.parentScope.children" ["s.parentScope.childrenMu"],
  .unlock "s.parentScope.childrenMu",   -- kDetP ]
  .lock "s.rootProvider.scopesMu" [],   -- cDetS / kDetS [
  .delete "s.rootProvider.scopes" ["s.rootProvider.scopesMu"],
  .unlock "s.rootProvider.scopesMu",   -- cDetS / kDetS ]
  .lock "s.instancesMu" [],   -- cNil [
  .nilAssign "s.instances" ["s.instancesMu"],
  .unlock "s.instancesMu",   -- cNil ]
  .ret []
]

def scope_getInstance : List Ev := [
  .rlock "s.instancesMu" [],   -- rRead / rRe [
  .read "s.instances" ["s.instancesMu:r"],
  .runlock "s.instancesMu",   -- rRead / rRe ]
  .ret []
]

def scope_lockCreation : List Ev := [
  .lock "s.creatingMu" [],   -- rMu [
  .read "s.creating" ["s.creatingMu"],
  .assign "s.creating" ["s.creatingMu"],
  .read "s.creating" ["s.creatingMu"],
  .write "s.creating" ["s.creatingMu"],
  .unlock "s.creatingMu",   -- rMu ] (no delete: the table only grows)
  .lock "m" [],   -- rLock (blocking, nothing else held)
  .methodValue "m.Unlock",   -- rUnl is `defer unlock()` in resolve
  .ret ["m"]
]

def scope_resolve : List Ev := [
  .ret [],
  .call "s.rootProvider.getSingleton" [],   -- gLoad
  .ret [],
  .atomic "LoadInt32" "s.disposed" [],   -- gMiss1 (0cb30f3)
  .ret [],
  .atomic "LoadInt32" "s.rootProvider.disposed" [],   -- gMiss2
  .ret [],
  .call "s.getInstance" [],   -- rRead
  .ret [],
  .call "s.lockCreation" [],   -- rMu, rLock
  .deferCall "unlock" [],   -- rUnl
  .call "s.getInstance" [],   -- rRe
  .ret [],
  .call "s.createInstance" [],   -- nested resolution of the parameters, rCtor, rSet, rTrk
  .ret [],
  .call "s.createInstance" [],   -- tCtor, tTrk
  .ret []
]

def scope_runInitializers : List Ev := [
  .rlock "s.rootProvider.voidReturnScopedDescriptorsMu" [],
  .read "s.rootProvider.voidReturnScopedDescriptors" ["s.rootProvider.voidReturnScopedDescriptorsMu:r"],
  .runlock "s.rootProvider.voidReturnScopedDescriptorsMu",
  .call "s.createInstance" [],
  .ret []
]

def scope_setInstance : List Ev := [
  .call "s.rootProvider.setSingleton" [],
  .lock "s.instancesMu" [],   -- rSet [
  .read "s.instances" ["s.instancesMu"],   -- rSet: nil check inside the region
  .write "s.instances" ["s.instancesMu"],   -- rSet: the write
  .unlock "s.instancesMu",   -- rSet ]
  .call "s.track" [],   -- rTrk (always reached: scoped)
  .ret [],
  .call "s.track" [],   -- tTrk (transient)
  .ret []
]

def scope_shareInstance : List Ev := [
  .call "s.rootProvider.storeSingleton" [],
  .lock "s.instancesMu" [],
  .read "s.instances" ["s.instancesMu"],
  .write "s.instances" ["s.instancesMu"],
  .unlock "s.instancesMu"
]

def scope_track : List Ev := [
  .lock "s.disposablesMu" [],   -- rTrk / tTrk [
  .atomic "LoadInt32" "s.disposed" ["s.disposablesMu"],   -- the disposed check INSIDE the region
  .unlock "s.disposablesMu",   -- ] (late)
  .call "d.Close" [],   -- rSelf / tSelf (USER Close of the late instance, after the unlock)
  .ret [],
  .read "s.disposables" ["s.disposablesMu"],
  .assign "s.disposables" ["s.disposablesMu"],   -- the append
  .unlock "s.disposablesMu",
  .ret []
]

def facts : List (String × List Ev) := [
  ("newScope", newScope),
  ("provider.Close", provider_Close),
  ("provider.CreateScope", provider_CreateScope),
  ("provider.Get", provider_Get),
  ("provider.GetGroup", provider_GetGroup),
  ("provider.GetKeyed", provider_GetKeyed),
  ("provider.createAllSingletonsWithContext", provider_createAllSingletonsWithContext),
  ("provider.getSingleton", provider_getSingleton),
  ("provider.setSingleton", provider_setSingleton),
  ("provider.storeSingleton", provider_storeSingleton),
  ("scope.Close", scope_Close),
  ("scope.CreateScope", scope_CreateScope),
  ("scope.Get", scope_Get),
  ("scope.GetGroup", scope_GetGroup),
  ("scope.GetKeyed", scope_GetKeyed),
  ("scope.createInstance", scope_createInstance),
  ("scope.dispose", scope_dispose),
  ("scope.getInstance", scope_getInstance),
  ("scope.lockCreation", scope_lockCreation),
  ("scope.resolve", scope_resolve),
  ("scope.runInitializers", scope_runInitializers),
  ("scope.setInstance", scope_setInstance),
  ("scope.shareInstance", scope_shareInstance),
  ("scope.track", scope_track)
]


end Godi.Conc.LockExpected

namespace Godi.Conc.LockFactsOk
open Godi.LockIR Godi.Gen.LockFacts

theorem facts_eq : facts = Godi.Conc.LockExpected.facts := by rfl

def Ev.isUnknown : Ev → Bool
  | .unknown _ => true
  | _ => false

/-- events that must happen with no mutex held -/
def Ev.flatOk : Ev → Bool
  | .lock _ h | .rlock _ h | .chanRecv _ h | .call _ h | .deferCall _ h => h.isEmpty
  | .ret h => h.all (· == "m")
  | _ => true

/-- accesses to guarded fields -/
def Ev.guardOk : Ev → Bool
  | .read f h => h.contains (f ++ "Mu") || h.contains (f ++ "Mu:r")
  | .write f h | .delete f h | .nilAssign f h | .assign f h => h.contains (f ++ "Mu")
  | _ => true

def allEvents (p : Ev → Bool) (t : List (String × List Ev)) : Bool := t.all (fun fe => fe.2.all p)

theorem no_unknown : allEvents (fun e => !Ev.isUnknown e) facts = true := by decide
theorem table_locks_flat : allEvents Ev.flatOk facts = true := by decide
-- by the kernel alone: the elaborator's own evaluation of the string comparisons is slow
theorem guarded_fields_locked : allEvents Ev.guardOk facts = true := by decide +kernel

end Godi.Conc.LockFactsOk
