import GodiProofs.Conc.Basic
/-! Thread-local well-formedness of program counters (which continuation a Close frame may carry). -/
namespace Godi.Conc

/-- `ErrSingletonNotInitialized`: only the singleton read produces it, no frame carries it around -/
def Res.isNI : Res → Bool
  | .notInit => true
  | _ => false

/-- the frame below is not the children loop of `S.Close`: a call that ends with a plain result other than
`notInit`, or the scope loop of `provider.Close` -/
def K.top : K → Bool
  | .kids _ _ => false
  | .ret r => r.plain && !r.isNI
  | .scopes _ => true
/-- the frame below is the children loop of `S.Close` -/
def K.inS : K → Bool
  | .kids _ _ => true
  | _ => false
/-- somewhere below is the scope loop of `provider.Close` -/
def K.inP : K → Bool
  | .ret _ => false
  | .kids _ k => k.inP
  | .scopes _ => true
/-- as `K.top`, but the frame may be the children loop of `S.Close`, whose own frame then is `top`: a `Close`
of `S` is never called from its own children loop -/
def K.wf : K → Bool
  | .kids _ k => k.top
  | .ret r => r.plain && !r.isNI
  | .scopes _ => true

/-- which frame a `Close` of `S` (`top`) and of a child (`wf`) may carry; a nested resolution (`o`) is one
of `b`; no result on its way to the caller is `notInit` -/
def Pc.wf : Pc → Bool
  | .cCas k | .cWait k | .cCancel _ k | .cTake k | .cKids _ k | .cTakeD k | .cDrain _ k | .cDetS k | .cNil k | .cErr k | .cSig k => k.top
  | .kCas _ k | .kWait _ k | .kDetP _ k | .kDetS _ k | .kSig _ k => k.wf
  | .rChk k o | .rRead k o | .rMu k o | .rLock k o | .rRe k o | .rCtor k o | .rSet k o _ | .rTrk k o _
  | .rSelf k o _ => !(o && k == .a)
  | .rUnl k o r => !(o && k == .a) && !r.isNI
  | _ => true

theorem resume_wf {k : K} (h : k.wf = true) : (resume k).wf = true := by
  cases k <;> first | rfl | exact h

theorem resume_wf_top {k : K} (h : k.top = true) : (resume k).wf = true := by
  cases k <;> first | rfl | cases h

/-- A successor keeps the frame of its predecessor (`hw` again) or has none (`rfl`); a nested
resolution is entered and left at fixed program points. -/
theorem act_wf {c : Cfg} {s s' : Sh} {pc pc' : Pc} {sp : List Pc} (h : Act c s pc pc' s' sp)
    (hw : pc.wf = true) : pc'.wf = true := by
  cases h
  case rRe_hit | rCtor_fail | rTrk | rSelf => exact (Bool.and_true _).trans hw
  case rUnl_err_in =>
    simp only [Pc.wf, Bool.and_eq_true] at hw ⊢
    exact ⟨rfl, hw.2⟩
  case cWait_kids | cSig_kids => cases hw
  all_goals first | exact hw | rfl

def WfSys (s : Sys) : Prop := ∀ th ∈ s.thr, th.pc.wf = true

theorem WfSys.step {s s' : Sys} (inv : WfSys s) (st : Step s s') : WfSys s' := by
  obtain ⟨th, pc', sp, others, v⟩ := st.acting
  exact v.lift (fun x h => inv x (v.others_mem x h)) (act_wf v.act (inv th v.mem)) (fun _ => rfl)

end Godi.Conc
