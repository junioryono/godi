import GodiProofs.Conc.Kids
/-! The provider's scope table never keeps a child whose `Close` has got past its own
`delete(p.scopes, child)` — except for the moment in which the creator of that child is between its
registration (`sReg`) and the re-check that undoes it (`sRe`, `sUndo`): repair 64d7b34 of finding F2. -/
namespace Godi.Conc

/-- the creator of child `q` is between the registration in `p.scopes` and its re-check / undo -/
def Pc.fixing (q : Cid) : Pc → Nat
  | .sRe c | .sUndo c => if c = q then 1 else 0
  | _ => 0
/-- the closer of child `q` has executed its `delete(p.scopes, q)` and not yet signalled -/
def Pc.atKSig (q : Cid) : Pc → Nat
  | .kSig c _ => if c = q then 1 else 0
  | _ => 0
def fixing (q : Cid) (th : Thr) : Nat := th.pc.fixing q
def atKSig (q : Cid) (th : Thr) : Nat := th.pc.atKSig q

/-- child `q` has an entry in the provider's scope table -/
def Sh.inTable (s : Sh) (q : Cid) : Bool :=
  match s.scopes with
  | some l => l.contains q
  | none => false

variable {c : Cfg} {s s' : Sh} {pc pc' : Pc} {sp : List Pc}

theorem atKSig_le_kwin (q : Cid) (pc : Pc) : pc.atKSig q ≤ pc.kwin q := by
  cases pc <;> first | exact Nat.le_refl _ | exact Nat.zero_le _

theorem inTable_scopeDelete (s : Sh) (c q : Nat) :
    (s.scopeDelete c).inTable q = true ↔ s.inTable q = true ∧ q ≠ c := by
  unfold Sh.inTable Sh.scopeDelete
  cases s.scopes <;> simp [List.contains_eq_mem, List.mem_filter]

/-- An entry for `q` appears at `sReg q`, whose thread is then `fixing q` until it has seen the child
undisposed (`sRe`; then by `hk` nobody is at `kSig q` and `q` is not closed) or has deleted the entry
again (`sUndo`). A closer reaches `kSig q` by deleting the entry (`kDetS`), and `q` becomes closed from
there. -/
theorem act_stale (q : Cid) (h : Act c s pc pc' s' sp) (n1 n2 : Nat)
    (hk : q ∉ s.kidDisp → n1 + pc.atKSig q = 0 ∧ q ∉ s.kidClosed)
    (inv : s.inTable q = true → (0 < n1 + pc.atKSig q ∨ q ∈ s.kidClosed) → 0 < n2 + pc.fixing q) :
    s'.inTable q = true → (0 < n1 + pc'.atKSig q ∨ q ∈ s'.kidClosed) → 0 < n2 + pc'.fixing q := by
  cases h
  case sReg ch l hl =>
    intro hin hp
    by_cases hq : ch = q
    · simp only [Pc.fixing, hq, if_true]; omega
    · have e : s.inTable q = true := by
        simpa [Sh.inTable, hl, List.contains_cons, Ne.symm hq] using hin
      simpa only [Pc.fixing, hq, if_false] using inv e hp
  case sRe ch hd =>
    intro hin hp
    by_cases hq : ch = q
    · subst hq
      rcases hp with hp | hp
      · exact absurd hp (Nat.not_lt.2 (Nat.le_of_eq (hk hd).1))
      · exact absurd hp (hk hd).2
    · simpa only [Pc.fixing, hq, if_false] using inv hin hp
  case sUndo ch | kDetS ch _ =>
    all_goals
      intro hin hp
      rw [inTable_scopeDelete] at hin
      have hq : ¬ ch = q := fun e => hin.2 e.symm
      simp only [Pc.fixing, Pc.atKSig, hq, if_false] at inv hp ⊢
      exact inv hin.1 hp
  case cDetS =>
    intro hin
    exact inv ((inTable_scopeDelete ..).1 hin).1
  case pTake => exact nofun
  case kSig_ret ch _ | kSig_kids ch _ _ | kSig_scopes ch _ =>
    all_goals
    intro hin hp
    refine inv hin ?_
    by_cases hq : ch = q
    · simp only [Pc.atKSig, hq, if_true]; omega
    · simpa only [Pc.atKSig, hq, if_false, List.mem_cons, Ne.symm hq, false_or] using hp
  all_goals exact inv

structure StaleInv (s : Sys) : Prop where
  stale : ∀ q, s.sh.inTable q = true → (0 < tot (atKSig q) s.thr ∨ q ∈ s.sh.kidClosed) → 0 < tot (fixing q) s.thr

theorem StaleInv.step {s s' : Sys} (kd : KidInv s) (inv : StaleInv s) (st : Step s s') : StaleInv s' := by
  obtain ⟨th, pc', sp, others, v⟩ := st.acting
  refine ⟨fun q => ?_⟩
  have a1 := v.before (atKSig q)
  rw [v.after (atKSig q) (fun _ => rfl), v.after (fixing q) (fun _ => rfl)]
  refine act_stale q v.act _ _ (fun hq => ?_) (a1 ▸ v.before (fixing q) ▸ inv.stale q)
  -- nobody is inside the `Close` body of a child whose CAS has not been won
  have hw := kd.win q
  have c0 : s.sh.kidDisp.count q = 0 := List.count_eq_zero.2 hq
  have hle := tot_le (m := atKSig q) (m' := kwin q) (fun t => atKSig_le_kwin q t.pc) s.thr
  exact ⟨a1 ▸ (by omega), fun hc => absurd (List.count_pos_iff.2 hc) (by omega)⟩

end Godi.Conc
