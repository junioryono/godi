import GodiProofs.Conc.Inv
/-! The concurrent clauses of C01, C02, C10, C12, C13, C14, stated over every state reachable from an
initial state with ANY number of threads of each kind, under ANY interleaving (`Reach`), and for
every choice of failing constructors / initializers and map-iteration orders (`Cfg`). -/
namespace Godi.Conc

/-- instance `i` of key `k` is visible in state `s`: it is in the cache, or some call returned it -/
def Visible (s : Sys) (k : Key) (i : Inst) : Prop :=
  s.sh.cacheGet k = some i ∨ ∃ th ∈ s.thr, th.pc = .done (.ok k i)

theorem visible_ever {s : Sys} (inv : Inv s) {k : Key} {i : Inst} (h : Visible s k i) : i ∈ s.sh.ever.get k := by
  rcases h with h | ⟨th, hth, hpc⟩
  · exact mem_ever_of_hit (inv.cache.c1 k) h
  · exact (inv.cache.loc th hth).claim k i (hpc ▸ rfl)

/-- C02 (concurrent clause): however many goroutines resolve a scoped service in one scope, at most
one instance of it is ever cached or returned: any two visible instances of a key are the same. -/
theorem C02_one_per_scope_conc {thr : List Thr} (h0 : InitThreads thr) {s : Sys} (r : Reach (init thr) s)
    (k : Key) (i j : Inst) (hi : Visible s k i) (hj : Visible s k j) : i = j := by
  have inv := Inv.reach h0 r
  have h1 := visible_ever inv hi
  have h2 := visible_ever inv hj
  have hl := inv.cache.c2 k
  generalize s.sh.ever.get k = l at *
  match l, hl, h1, h2 with
  | [x], _, h1, h2 => exact (List.mem_singleton.1 h1).trans (List.mem_singleton.1 h2).symm
  | [], _, h1, _ => cases h1
  | _ :: _ :: _, hl, _, _ => exact absurd hl (by simp)

/-- … and every instance ever written into the cache of a key is one and the same (the list of all
cache writes for a key has length ≤ 1), even across a concurrent Close. -/
theorem C02_one_write_conc {thr : List Thr} (h0 : InitThreads thr) {s : Sys} (r : Reach (init thr) s) (k : Key) :
    (s.sh.ever.get k).length ≤ 1 := (Inv.reach h0 r).cache.c2 k

/-- C02: a failed construction leaves the state untouched (nothing cached, nothing tracked), the
thread goes on to release the creation mutex, and the error is what the caller gets: one branch of
`act`, in any state. -/
theorem C02_failed_ctor_caches_nothing (c : Cfg) (s : Sh) (k : Key) (o : Bool) (hf : c.fails k = true) :
    act c s (.rCtor k o) = some (.rUnl k o .ctorErr, s, []) := by simp [act, hf]

theorem Pc.idle_cases {pc : Pc} (h : pc.idle = true) : (∃ r, pc = .done r) ∨ pc = .wS ∨ ∃ c, pc = .wKid c := by
  cases pc
  case done r => exact .inl ⟨r, rfl⟩
  case wS => exact .inr (.inl rfl)
  case wKid c => exact .inr (.inr ⟨c, rfl⟩)
  all_goals cases h

/-- C10 (concurrent clause): once every thread has returned (watchers may still be parked) and the
scope has been closed, every instance whose constructor completed — including those whose
construction overlapped the Close — has exactly one `Close` event. -/
theorem C10_exactly_once_conc {thr : List Thr} (h0 : InitThreads thr) {s : Sys} (r : Reach (init thr) s)
    (hfin : ∀ th ∈ s.thr, th.pc.idle = true) (hd : s.sh.disposed = true) :
    s.sh.closed.Nodup ∧ ∀ i, i ∈ s.sh.created ↔ i ∈ s.sh.closed := by
  have inv := Inv.reach h0 r
  -- nobody is inside the body any more, so the winner of the CAS has signalled
  have hw : tot winS s.thr = 0 := tot_zero_of (fun t ht => by
    rcases Pc.idle_cases (hfin t ht) with ⟨r, e⟩ | e | ⟨c, e⟩ <;> simp only [winS, e, Pc.winS])
  have hsig : s.sh.closedSig = true := b2n_pos (by have := inv.gate.win; rw [hw, hd, b2n_true] at this; omega)
  refine inv.once.exactly_once (fun t ht => ?_) (inv.gate.sig hsig).2.1
  rcases Pc.idle_cases (hfin t ht) with ⟨r, e⟩ | e | ⟨c, e⟩ <;> rw [e] <;> rfl

/-- C10: nothing is closed before the scope's CAS. -/
theorem C10_not_early_conc {thr : List Thr} (h0 : InitThreads thr) {s : Sys} (r : Reach (init thr) s)
    (hd : s.sh.disposed = false) : s.sh.closed = [] := (Inv.reach h0 r).once.early hd

/-- C12 (concurrent clause): among any number of concurrent `Close` calls, cancellation watchers and
provider closes, exactly one passes the CAS (`casWins = 1` iff the flag is set, at most one thread
is ever inside the body); once the `closed` channel is signalled nobody is inside the body and all
three tables are released and the disposal outcome `closeErr` has been written — and a loser can only
return (and read `closeErr`) then, because `<-s.closed` is not enabled earlier; the loser's two
actions change nothing. (The last two conjuncts, about the loser, are the text of `act`: they hold of
every state, reachable or not.) -/
theorem C12_idempotent_conc {thr : List Thr} (h0 : InitThreads thr) {s : Sys} (r : Reach (init thr) s) :
    s.sh.casWins = b2n s.sh.disposed ∧ s.sh.casWins ≤ 1 ∧ tot winS s.thr ≤ 1 ∧
    (s.sh.closedSig = true → tot winS s.thr = 0 ∧ s.sh.cache = none ∧ s.sh.disposables = none ∧ s.sh.children = none ∧
        s.sh.errSet = true) ∧
    (∀ c k, s.sh.disposed = true → act c s.sh (.cCas k) = some (.cWait k, s.sh, [])) ∧
    (∀ c k pc' sh' sp, act c s.sh (.cWait k) = some (pc', sh', sp) →
        s.sh.closedSig = true ∧ sh' = s.sh ∧ pc' = resume k ∧ sp = []) := by
  have inv := Inv.reach h0 r
  have hw := inv.gate.win
  have b1 := b2n_le s.sh.disposed
  have b2 := b2n_le s.sh.closedSig
  refine ⟨inv.gate.cas, by rw [inv.gate.cas]; exact b1, by omega, ?_, ?_, ?_⟩
  · intro hs
    have := inv.gate.sig hs
    rw [hs] at hw
    simp at hw
    exact ⟨by omega, this.2.2.1, this.2.1, this.1, this.2.2.2⟩
  · intro c k hd; simp [act, hd]
  · intro c k pc' sh' sp h
    cases Act.of_act h <;> exact ⟨‹_›, rfl, rfl, rfl⟩

/-- C13 (concurrent clause): an operation that overlaps a Close (of the scope or of the provider)
never panics (no write to a released table, no append to a drained disposal list), returns one of
its documented results — for a scoped resolution: the cached instance, the disposed error or the
constructor's error — and never hangs: as long as some call has not returned, some call can move. -/
theorem C13_overlap {thr : List Thr} (h0 : InitThreads thr) {s : Sys} (r : Reach (init thr) s) :
    s.sh.panicked = false ∧ s.sh.resurrected = false ∧
    (∀ th ∈ s.thr, ∀ res, th.pc = .done res → res.okFor th.start = true) ∧
    ((∃ th ∈ s.thr, th.pc.idle = false) → Live s) := by
  have inv := Inv.reach h0 r
  refine ⟨inv.gate.noPanic, inv.gate.noRes, ?_, progress inv.wf inv.gate inv.lock inv.kids⟩
  intro th hth res hpc
  have := inv.fam th hth
  rwa [hpc] at this

/-- C01 (concurrent clause): no resolution, scope creation or scope Close ever writes the singleton
table; it changes only when `provider.Close` clears it, so while the provider is open every
lock-free read sees the Build-time content. (The second conjunct is the text of `act` and holds of every
state; the first is the invariant.) -/
theorem C01_table_stable_conc {thr : List Thr} (h0 : InitThreads thr) {s : Sys} (r : Reach (init thr) s) :
    (s.sh.pdisposed = false → s.sh.singletons = true) ∧
    (∀ c pc pc' sh' sp, act c s.sh pc = some (pc', sh', sp) → pc ≠ .pRest → sh'.singletons = s.sh.singletons) := by
  have inv := Inv.reach h0 r
  refine ⟨fun hp => ?_, ?_⟩
  · cases hs : s.sh.singletons
    · have := inv.gate.pSingle hs; simp_all
    · rfl
  · intro c pc pc' sh' sp h hne
    cases Act.of_act h
    case pRest => exact absurd rfl hne
    all_goals rfl

/-- C12 (concurrent clause, finding F1' / repair 0c7a2e0): the scope's own `Close` takes the children
out of the table before it cancels the context —
(1) unless the USER cancelled the context, the context is cancelled only after the snapshot was taken,
    so `S.Close` never wakes a child's watcher while the child can still slip out of the table;
(2) the snapshot is the whole table at that moment (`cTake`): the text of `act`, true of every state;
(3) every child of the snapshot stays on the closer's work list until its disposal has completed:
    the closer disposes it itself, or waits at `<-child.closed` (`kWait`, enabled only when the
    child's `closed` is signalled; that the child's `closeErr` is written before is the modelling of
    `kSig` as one action, the model has no per-child `closeErr`); in particular
(4) when `S.closed` is signalled, every child of the snapshot has completed its disposal. -/
theorem C12_child_error_collected_conc {thr : List Thr} (h0 : InitThreads thr) {s : Sys} (r : Reach (init thr) s) :
    (s.sh.cancelled = true → s.sh.userCancelled = true ∨ s.sh.children = none) ∧
    (∀ c k, act c s.sh (.cTake k) = some (.cCancel (order c (s.sh.children.getD [])) k,
        { s.sh with children := none, snap := order c (s.sh.children.getD []) }, [])) ∧
    (∀ th ∈ s.thr, ∀ l, th.pc.work = some l → ∀ x ∈ s.sh.snap, x ∈ l ∨ x ∈ s.sh.kidClosed) ∧
    (s.sh.closedSig = true → ∀ x ∈ s.sh.snap, x ∈ s.sh.kidClosed) := by
  have inv := Inv.reach h0 r
  exact ⟨inv.collect.canc, fun c k => rfl, inv.collect.cov, inv.collect.sig⟩

/-- C14 / C13 (finding F2, repair 64d7b34): the provider's scope table never keeps a child whose
`Close` has completed, unless the creator of that child is at this very moment between its
registration and the re-check that removes it again; in particular never when all calls have
returned (`C14_no_stale_child_when_idle`). -/
theorem C14_no_stale_child_in_provider_table {thr : List Thr} (h0 : InitThreads thr) {s : Sys}
    (r : Reach (init thr) s) (q : Cid) (hfix : ∀ th ∈ s.thr, th.pc ≠ .sRe q ∧ th.pc ≠ .sUndo q)
    (hclosed : q ∈ s.sh.kidClosed) : s.sh.inTable q = false := by
  have inv := Inv.reach h0 r
  cases hin : s.sh.inTable q
  · rfl
  · have := inv.stale.stale q hin (Or.inr hclosed)
    obtain ⟨th, hth, hp⟩ := tot_pos this
    have hne := hfix th hth
    unfold fixing at hp
    cases hpc : th.pc
    case sRe c | sUndo c =>
      all_goals
        rw [hpc] at hp hne
        simp only [Pc.fixing] at hp
        split at hp
        · subst c; simp at hne
        · cases hp
    all_goals rw [hpc] at hp; cases hp

/-- … stated for quiescent states: once every call has returned, no closed child is registered. -/
theorem C14_no_stale_child_when_idle {thr : List Thr} (h0 : InitThreads thr) {s : Sys}
    (r : Reach (init thr) s) (hfin : ∀ th ∈ s.thr, th.pc.idle = true) (q : Cid) (hclosed : q ∈ s.sh.kidClosed) :
    s.sh.inTable q = false := by
  refine C14_no_stale_child_in_provider_table h0 r q (fun th hth => ?_) hclosed
  have := hfin th hth
  constructor <;> (intro hpc; simp [hpc, Pc.idle] at this)

/-- C13 (finding F3, repair 0cb30f3): a singleton resolution never reports
`ErrSingletonNotInitialized`: it returns the singleton, or — when it overlaps a Close — the scope- or
provider-disposed error. -/
theorem C13_singleton_overlap_reports_disposed {thr : List Thr} (h0 : InitThreads thr) {s : Sys}
    (r : Reach (init thr) s) :
    (∀ th ∈ s.thr, th.pc ≠ .done .notInit) ∧
    (∀ th ∈ s.thr, ∀ res, th.start = .gChk → th.pc = .done res →
        res = .okS ∨ res = .disposed ∨ res = .provDisposed) := by
  have inv := Inv.reach h0 r
  have h1 : ∀ th ∈ s.thr, th.pc ≠ .done .notInit := by
    intro th hth hpc
    have := inv.gate.noNotInit th hth
    rw [hpc] at this
    cases this
  refine ⟨h1, ?_⟩
  intro th hth res hst hpc
  have hf : res.okFor .gChk = true := by
    have := inv.fam th hth
    rwa [hst, hpc] at this
  cases res <;> first | exact .inl rfl | exact .inr (.inl rfl) | exact .inr (.inr rfl) |
    exact absurd hpc (h1 th hth) | cases hf

end Godi.Conc
