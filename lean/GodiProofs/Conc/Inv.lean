import GodiProofs.Conc.Once
import GodiProofs.Conc.Cache
import GodiProofs.Conc.Progress
import GodiProofs.Conc.Results
import GodiProofs.Conc.Stale
import GodiProofs.Conc.Collect
/-! All invariants of M6 together; they hold in every state reachable from an initial state. -/
namespace Godi.Conc

structure Inv (s : Sys) : Prop where
  wf : WfSys s
  gate : Gate s
  lock : LockInv s
  kids : KidInv s
  once : OnceInv s
  cache : CacheInv s
  fam : FamSys s
  stale : StaleInv s
  collect : CollectInv s

theorem Inv.step {s s' : Sys} (inv : Inv s) (st : Step s s') : Inv s' :=
  ⟨inv.wf.step st, inv.gate.step inv.wf st, inv.lock.step inv.wf st, inv.kids.step st,
   inv.once.step inv.gate st, inv.cache.step inv.wf inv.gate inv.lock st, inv.fam.step st,
   inv.stale.step inv.kids st, inv.collect.step inv.wf inv.gate st⟩

/-- a legal initial thread list: any number of threads, each at the start of one of the API calls -/
def InitThreads (thr : List Thr) : Prop := ∀ th ∈ thr, th.pc.initial = true ∧ th.start = th.pc

theorem Pc.initial_cases {pc : Pc} (h : pc.initial = true) :
    (∃ k, pc = .rChk k false) ∨ pc = .tChk ∨ pc = .gChk ∨ pc = .sChk ∨ pc = .cCas (.ret .okUnit) ∨ pc = .pCas ∨
      pc = .wS ∨ pc = .xCancel := by
  cases pc
  case rChk k o => cases o <;> first | exact .inl ⟨k, rfl⟩ | cases h
  case tChk => exact .inr (.inl rfl)
  case gChk => exact .inr (.inr (.inl rfl))
  case sChk => exact .inr (.inr (.inr (.inl rfl)))
  case cCas k =>
    cases k
    case ret r => cases r <;> first | exact .inr (.inr (.inr (.inr (.inl rfl)))) | cases h
    all_goals cases h
  case pCas => exact .inr (.inr (.inr (.inr (.inr (.inl rfl)))))
  case wS => exact .inr (.inr (.inr (.inr (.inr (.inr (.inl rfl))))))
  case xCancel => exact .inr (.inr (.inr (.inr (.inr (.inr (.inr rfl))))))
  all_goals cases h

/-- where a call starts: outside every region the invariants count, with no flag up and nothing in hand -/
structure Pc.Fresh (pc : Pc) : Prop where
  wf : pc.wf = true
  winS : pc.winS = 0
  winP : pc.winP = 0
  unflagged : pc.unflagged = true
  holdsL : ∀ q, pc.holdsL q = 0
  kwin : ∀ q, pc.kwin q = 0
  waitsKid : pc.waitsKid = none
  holds : pc.holds = []
  claim : pc.claim = none
  tracked : pc.tracked = none
  fam : Fam pc pc = true
  atKSig : ∀ q, pc.atKSig q = 0
  work : pc.work = none

theorem Pc.fresh_of_initial {pc : Pc} (h : pc.initial = true) : pc.Fresh := by
  rcases pc.initial_cases h with ⟨k, rfl⟩ | rfl | rfl | rfl | rfl | rfl | rfl | rfl <;>
    constructor <;> intros <;> first | rfl | exact beq_self_eq_true (Pc.rChk k false)

theorem Inv.init {thr : List Thr} (h : InitThreads thr) : Inv (Conc.init thr) := by
  have fr : ∀ th ∈ thr, th.pc.Fresh := fun th ht => Pc.fresh_of_initial (h th ht).1
  have loc : ∀ th ∈ thr, GateLocal {} th.pc := fun t ht => .of_unflagged (fr t ht).unflagged
  have zS : tot winS thr = 0 := tot_zero_of fun t ht => (fr t ht).winS
  have zP : tot winP thr = 0 := tot_zero_of fun t ht => (fr t ht).winP
  have zL (q) : tot (holdsL q) thr = 0 := tot_zero_of fun t ht => (fr t ht).holdsL q
  have zK (q) : tot (kwin q) thr = 0 := tot_zero_of fun t ht => (fr t ht).kwin q
  have zI (j) : tot (holdsI j) thr = 0 := tot_zero_of fun t ht => congrArg (List.count j) (fr t ht).holds
  have zA (q) : tot (atKSig q) thr = 0 := tot_zero_of fun t ht => (fr t ht).atKSig q
  refine ⟨fun th ht => (fr th ht).wf, ?_, ⟨fun q => by cases q <;> exact zL _⟩,
    ⟨fun q => show tot (kwin q) thr + 0 = 0 by rw [zK], fun th ht q hq => nomatch (fr th ht).waitsKid.symm.trans hq⟩,
    ⟨fun j => show tot (holdsI j) thr + 0 + 0 = 0 by rw [zI], fun _ _ => rfl, fun _ => Nat.zero_le 1, fun _ => rfl⟩, ?_,
    fun th ht => (h th ht).2 ▸ (fr th ht).fam,
    ⟨fun q _ hp => hp.elim (fun hp => absurd hp (zA q ▸ Nat.lt_irrefl 0 : ¬ 0 < tot (atKSig q) thr)) nofun⟩,
    ⟨fun th ht l hl => (nomatch (fr th ht).work.symm.trans hl), nofun, nofun⟩⟩
  · exact {
      win := zS.symm ▸ rfl, cas := rfl, pwin := zP.symm ▸ Nat.zero_le _
      take := fun x h => (loc x h).take, takeD := fun x h => (loc x h).takeD, nil := fun x h => (loc x h).nil
      err := fun x h => (loc x h).err, saw := fun x h => (loc x h).saw, miss := fun x h => (loc x h).miss
      noNotInit := fun x h => (loc x h).notInit
      sig := nofun, dCache := nofun, dDisp := nofun, dKids := nofun, noPanic := rfl, noRes := rfl
      pScopes := nofun, pSingle := nofun }
  · refine ⟨fun q _ => by cases q <;> rfl, fun q => by cases q <;> exact Nat.zero_le 1, fun q _ => .inr (by cases q <;> rfl),
      fun th ht => ⟨fun _ _ e => (nomatch (fr th ht).claim.symm.trans e), fun _ _ e => nomatch (fr th ht).tracked.symm.trans e⟩⟩

theorem Inv.reach {thr : List Thr} (h : InitThreads thr) {s : Sys} (r : Reach (Conc.init thr) s) : Inv s := by
  induction r with
  | refl => exact Inv.init h
  | step _ st ih => exact ih.step st

end Godi.Conc
