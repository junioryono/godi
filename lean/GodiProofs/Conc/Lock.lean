import GodiProofs.Conc.Gate
/-! The creation mutexes: `lock q` is held iff exactly one thread is inside the locked region of `q`. -/
namespace Godi.Conc

/-- the thread holds the creation mutex of key `q` (a thread resolving `b` on behalf of `a` holds `a`'s) -/
def Pc.holdsL (q : Key) : Pc → Nat
  | .rChk _ o | .rRead _ o | .rMu _ o | .rLock _ o => b2n (o && q == .a)
  | .rRe k o | .rCtor k o | .rSet k o _ | .rTrk k o _ | .rSelf k o _ | .rUnl k o _ => b2n (k == q) + b2n (o && q == .a)
  | _ => 0

def holdsL (q : Key) (th : Thr) : Nat := th.pc.holdsL q

variable {c : Cfg} {s s' : Sh} {pc pc' : Pc} {sp : List Pc}

/-- `m.Lock()` of key `k`, enabled on a free mutex only, seen from key `q` -/
theorem lock_take {m : KV Bool} {k q : Key} {n x : Nat} (hfree : m.get k = false)
    (hn : n + x = b2n (m.get q)) : n + (b2n (k == q) + x) = b2n ((m.set k true).get q) := by
  by_cases hk : k = q
  · subst hk
    simp only [hfree, b2n_false] at hn
    simp only [KV.get_set_same, beq_self_eq_true, b2n_true]
    omega
  · simp only [KV.get_set_ne _ _ _ _ hk, beq_false_of_ne hk, b2n_false]
    omega

/-- `m.Unlock()` of key `k`, seen from key `q` -/
theorem lock_release {m : KV Bool} {k q : Key} {n x : Nat}
    (hn : n + (b2n (k == q) + x) = b2n (m.get q)) : n + x = b2n ((m.set k false).get q) := by
  by_cases hk : k = q
  · subst hk
    have := b2n_le (m.get k)
    simp only [beq_self_eq_true, b2n_true] at hn
    simp only [KV.get_set_same, b2n_false]
    omega
  · simp only [beq_false_of_ne hk, b2n_false] at hn
    simp only [KV.get_set_ne _ _ _ _ hk]
    omega

/-- The only actions that touch `lock` are `m.Lock()` and the deferred `m.Unlock()`; they move the
acting thread into and out of the locked region of their key. A nested resolution of `b` starts and
ends inside the locked region of `a`, so `a`'s mutex stays counted. Everything else leaves `lock` and
the thread's `holdsL` as they are, by computation. -/
theorem act_lock (q : Key) (h : Act c s pc pc' s' sp) (hw : pc.wf = true)
    (n : Nat) (hn : n + pc.holdsL q = b2n (s.lock.get q)) :
    n + pc'.holdsL q = b2n (s'.lock.get q) := by
  cases h
  case rLock k o hfree => exact lock_take hfree hn
  case rUnl_ok | rUnl_err => exact lock_release hn
  case rUnl_ok_in | rUnl_err_in => cases q <;> exact (lock_release hn : n + _ = _)
  case rChk_disp_in | rRead_hit_in => cases q <;> exact hn
  case rRe_miss_a o _ => cases o <;> cases q <;> first | exact hn | cases hw
  all_goals exact hn

structure LockInv (s : Sys) : Prop where
  held : ∀ q, tot (holdsL q) s.thr = b2n (s.sh.lock.get q)

theorem LockInv.step {s s' : Sys} (wf : WfSys s) (inv : LockInv s) (st : Step s s') : LockInv s' := by
  obtain ⟨th, pc', sp, others, v⟩ := st.acting
  exact ⟨fun q => v.after (holdsL q) (fun _ => rfl) ▸ act_lock q v.act (wf th v.mem) _ (v.before (holdsL q) ▸ inv.held q)⟩

end Godi.Conc
