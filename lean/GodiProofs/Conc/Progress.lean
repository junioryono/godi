import GodiProofs.Conc.Lock
import GodiProofs.Conc.Kids
/-! Deadlock freedom: in every state that satisfies the invariants, if some thread has not
returned, some such thread can take a step. A watcher at `wS`/`wKid` counts as returned (`Pc.idle`),
whether or not its context is still alive.

The argument is a rank on what a thread may wait for:
  rank 0  the body of a child's `Close` (`kDetP`, `kDetS`, `kSig`) and every non-blocking action;
  rank 1  `<-child.closed` (`kWait c`): the child's winner exists and has rank 0;
  rank 1  `m.Lock()` of key `b`: the holder never waits (b has no dependencies);
  rank 2  `m.Lock()` of key `a`: the holder may wait for `b`'s mutex only (dependency edge a → b);
  rank 2  `<-S.closed` (`cWait`): the winner of `S` may wait for a child's `closed` only.
Table mutexes do not appear: each protected region is one action (never nested, never held across
a blocking operation — `LockFactsOk.table_locks_flat`). -/
namespace Godi.Conc

/-- the only actions that can be disabled -/
def Pc.blocking : Pc → Bool
  | .rLock _ _ | .kWait _ _ | .cWait _ | .wS | .wKid _ => true
  | _ => false

theorem enabled_of_not_blocking (c : Cfg) (s : Sh) {pc : Pc} (hb : pc.blocking = false) (hi : pc.idle = false) :
    (act c s pc).isSome = true := by
  cases pc
  case rLock | kWait | cWait | wS | wKid => cases hb
  case done => cases hi
  all_goals
    dsimp only [act]
    repeat' split
    all_goals rfl

theorem rLock_enabled (c : Cfg) (s : Sh) (k : Key) (o : Bool) (h : s.lock.get k = false) :
    (act c s (.rLock k o)).isSome = true := by simp [act, h]
theorem kWait_enabled (c : Cfg) (s : Sh) (ch : Cid) (k : K) (h : ch ∈ s.kidClosed) :
    (act c s (.kWait ch k)).isSome = true := by simp [act, h]
theorem cWait_enabled (c : Cfg) (s : Sh) (k : K) (h : s.closedSig = true) :
    (act c s (.cWait k)).isSome = true := by simp [act, h]

def Live (s : Sys) : Prop := ∃ th ∈ s.thr, th.pc.idle = false ∧ th.enabled s.sh = true

theorem live_of_not_blocking {s : Sys} {th : Thr} (hth : th ∈ s.thr)
    (h : th.pc.blocking = false ∧ th.pc.idle = false) : Live s :=
  ⟨th, hth, h.2, enabled_of_not_blocking _ _ h.1 h.2⟩

theorem kwin_pos {pc : Pc} {q : Cid} (h : 0 < pc.kwin q) : pc.blocking = false ∧ pc.idle = false := by
  cases pc <;> first | exact ⟨rfl, rfl⟩ | cases h

/-- the holder of a creation mutex blocks only at the nested `m.Lock()` inside the construction of `a` -/
theorem holdsL_pos {pc : Pc} {q : Key} (h : 0 < pc.holdsL q) :
    (pc.blocking = false ∧ pc.idle = false) ∨ ∃ k, pc = .rLock k true ∧ q = .a := by
  cases pc
  case rLock k o => cases o <;> cases q <;> first | exact .inr ⟨k, rfl, rfl⟩ | cases h
  all_goals first | exact .inl ⟨rfl, rfl⟩ | cases h

/-- inside the body of `S.Close` a thread blocks only while it waits for a child -/
theorem winS_pos {pc : Pc} (h : 0 < pc.winS) :
    (pc.blocking = false ∧ pc.idle = false) ∨ ∃ q k, pc = .kWait q k := by
  cases pc
  case kWait q k => exact .inr ⟨q, k, rfl⟩
  all_goals first | exact .inl ⟨rfl, rfl⟩ | cases h

theorem blocking_cases {pc : Pc} (hb : pc.blocking = true) (hi : pc.idle = false) :
    (∃ k o, pc = .rLock k o) ∨ (∃ q k, pc = .kWait q k) ∨ ∃ k, pc = .cWait k := by
  cases pc
  case rLock k o => exact .inl ⟨k, o, rfl⟩
  case kWait q k => exact .inr (.inl ⟨q, k, rfl⟩)
  case cWait k => exact .inr (.inr ⟨k, rfl⟩)
  all_goals first | (cases hb; done) | cases hi

theorem live_of_enabled {s : Sys} {th : Thr} (hth : th ∈ s.thr) {pc : Pc} (hpc : th.pc = pc) (hi : pc.idle = false)
    (he : (act th.cfg s.sh pc).isSome = true) : Live s :=
  ⟨th, hth, hpc ▸ hi, by unfold Thr.enabled; rw [hpc]; exact he⟩

/-- rank 1: a thread waiting at `kWait` is waiting for a child somebody is closing -/
theorem live_of_kWait {s : Sys} (kd : KidInv s) {th : Thr} (hth : th ∈ s.thr) (q : Cid) (k : K)
    (hpc : th.pc = .kWait q k) : Live s := by
  by_cases hc : q ∈ s.sh.kidClosed
  · exact live_of_enabled hth hpc rfl (kWait_enabled _ _ _ _ hc)
  · have hw := kd.win q
    have c1 : 0 < s.sh.kidDisp.count q := List.count_pos_iff.2 (kd.wait th hth q (hpc ▸ rfl))
    have c2 : s.sh.kidClosed.count q = 0 := List.count_eq_zero.2 hc
    obtain ⟨w, hmem, hp⟩ := tot_pos (m := kwin q) (l := s.thr) (by omega)
    exact live_of_not_blocking hmem (kwin_pos hp)

/-- ranks 1 and 2: the holder of `b`'s creation mutex never waits; the holder of `a`'s may be waiting
for `b`'s, at the nested `m.Lock()` -/
theorem live_of_lock {s : Sys} (wf : WfSys s) (lk : LockInv s) {q : Key} (h : s.sh.lock.get q = true) : Live s := by
  have holder {q} (h : s.sh.lock.get q = true) : ∃ th ∈ s.thr, 0 < th.pc.holdsL q :=
    tot_pos (m := holdsL q) (by have := lk.held q; rw [h] at this; exact this ▸ Nat.zero_lt_one)
  obtain ⟨th, hth, hp⟩ := holder h
  rcases holdsL_pos hp with hnb | ⟨k, hpc, rfl⟩
  · exact live_of_not_blocking hth hnb
  have hw := wf th hth
  rw [hpc] at hw
  cases k
  · cases hw
  by_cases hb : s.sh.lock.get .b = true
  · obtain ⟨th', hth', hp'⟩ := holder hb
    exact live_of_not_blocking hth' ((holdsL_pos hp').resolve_right (fun ⟨_, _, e⟩ => nomatch e))
  · exact live_of_enabled hth hpc rfl (rLock_enabled _ _ _ _ (Bool.eq_false_iff.2 hb))

/-- rank 2: waiting for `S.closed`; the winner of `S` may be waiting for a child -/
theorem live_of_cWait {s : Sys} (g : Gate s) (kd : KidInv s) (hd : s.sh.disposed = true)
    (hs : s.sh.closedSig = false) : Live s := by
  have hw := g.win
  rw [hd, hs] at hw
  obtain ⟨th, hth, hp⟩ := tot_pos (m := winS) (l := s.thr) (by have : _ + 0 = 1 := hw; omega)
  rcases winS_pos hp with hnb | ⟨q, k, hpc⟩
  · exact live_of_not_blocking hth hnb
  · exact live_of_kWait kd hth q k hpc

theorem progress {s : Sys} (wf : WfSys s) (g : Gate s) (lk : LockInv s) (kd : KidInv s)
    (h : ∃ th ∈ s.thr, th.pc.idle = false) : Live s := by
  obtain ⟨th, hth, hi⟩ := h
  cases hb : th.pc.blocking
  · exact live_of_not_blocking hth ⟨hb, hi⟩
  rcases blocking_cases hb hi with ⟨k, o, hpc⟩ | ⟨q, k, hpc⟩ | ⟨k, hpc⟩
  · by_cases hk : s.sh.lock.get k = true
    · exact live_of_lock wf lk hk
    · exact live_of_enabled hth hpc rfl (rLock_enabled _ _ _ _ (Bool.eq_false_iff.2 hk))
  · exact live_of_kWait kd hth q k hpc
  · by_cases hs : s.sh.closedSig = true
    · exact live_of_enabled hth hpc rfl (cWait_enabled _ _ _ hs)
    · exact live_of_cWait g kd (g.saw _ hth (hpc ▸ rfl)) (Bool.eq_false_iff.2 hs)

end Godi.Conc
