import GodiProofs.Conc.Gate
/-! Instance accounting: everything a constructor returned is in exactly one place — the disposal
list, the hands of one thread, or the log of `Close` calls — and nothing is closed before the CAS. -/
namespace Godi.Conc

/-- instances the thread is responsible for at this moment -/
def Pc.holds : Pc → List Inst
  | .rSet _ _ i | .rTrk _ _ i | .rSelf _ _ i | .tTrk i | .tSelf i => [i]
  | .cDrain l _ => l
  | _ => []
def holdsI (j : Inst) (th : Thr) : Nat := th.pc.holds.count j

variable {c : Cfg} {s s' : Sh} {pc pc' : Pc} {sp : List Pc} {n : Nat → Nat}

/-- `OnceInv` as the acting thread sees it; `n j` is the others' contribution (`Acting`) to `tot (holdsI j)` -/
structure OnceAt (s : Sh) (pc : Pc) (n : Nat → Nat) : Prop where
  acct : ∀ j : Nat, n j + pc.holds.count j + s.closed.count j + (s.disposables.getD []).count j = s.created.count j
  fresh : ∀ j : Nat, s.nextI ≤ j → s.created.count j = 0
  cr1 : ∀ j : Nat, s.created.count j ≤ 1
  early : s.disposed = false → s.closed = []

/-- what allocating the fresh id `i` does to the counts of `j`; `n`, `a`, `b` are the other holders -/
theorem alloc_counts {created : List Nat} {i j n a b : Nat} (acct : n + 0 + a + b = created.count j)
    (fresh : i ≤ j → created.count j = 0) (cr1 : created.count j ≤ 1) :
    n + [i].count j + a + b = (i :: created).count j ∧ (i + 1 ≤ j → (i :: created).count j = 0) ∧
      (i :: created).count j ≤ 1 := by
  simp only [List.count_cons, List.count_nil, beq_iff_eq]
  split <;> omega

/-- an instance goes from a thread's hands to the disposal list, from its hands to the `Close` log, and
the whole list goes into a thread's hands: the sum of the counts of `j` stays -/
theorem count_tracked {n a d i j : Nat} {l : List Nat} (h : n + [i].count j + a + l.count j = d) :
    n + 0 + a + (l ++ [i]).count j = d := by
  simp only [List.count_append] at h ⊢; omega
theorem count_closed {n b d i j : Nat} {rest cl : List Nat} (h : n + (i :: rest).count j + cl.count j + b = d) :
    n + rest.count j + (i :: cl).count j + b = d := by
  simp only [List.count_cons] at h ⊢; omega
theorem count_taken {n a d j : Nat} {l : List Nat} (h : n + 0 + a + l.count j = d) :
    n + l.reverse.count j + a + 0 = d := by
  simp only [List.count_reverse]; omega

/-- An instance is born in the hands of its constructor's thread (`alloc`, with a fresh number), handed
to the disposal list by `track`, taken from there as a whole by `cTakeD`, and leaves the hands of a
thread for the `Close` log one at a time; a `Close` call is made only by a thread that has seen
`disposed = 1` or is inside the body of `S.Close`. -/
theorem act_once (h : Act c s pc pc' s' sp) (saw : pc.sawDisposed = true → s.disposed = true)
    (win : 0 < pc.winS → s.disposed = true) (g : OnceAt s pc n) : OnceAt s' pc' n := by
  have late : ∀ {i}, s.disposed = true → s.disposed = false → i :: s.closed = [] := fun h1 h2 => nomatch h1.symm.trans h2
  cases h
  case rCtor | tCtor =>
    all_goals
      have cnt := fun j => alloc_counts (g.acct j) (g.fresh j) (g.cr1 j)
      exact { g with acct := fun j => (cnt j).1, fresh := fun j => (cnt j).2.1, cr1 := fun j => (cnt j).2.2 }
  case rTrk | tTrk => all_goals exact { g with acct := fun j => count_tracked (g.acct j) }
  case rSelf | tSelf => all_goals exact { g with acct := fun j => count_closed (g.acct j), early := late (saw rfl) }
  case cDrain_cons => exact { g with acct := fun j => count_closed (g.acct j), early := late (win Nat.zero_lt_one) }
  case cTakeD => exact { g with acct := fun j => count_taken (g.acct j) }
  case cCas => exact { g with early := nofun }
  all_goals exact { g with }

structure OnceInv (s : Sys) : Prop where
  acct : ∀ j, tot (holdsI j) s.thr + s.sh.closed.count j + (s.sh.disposables.getD []).count j = s.sh.created.count j
  fresh : ∀ j, s.sh.nextI ≤ j → s.sh.created.count j = 0
  cr1 : ∀ j, s.sh.created.count j ≤ 1
  early : s.sh.disposed = false → s.sh.closed = []

theorem OnceInv.step {s s' : Sys} (g : Gate s) (inv : OnceInv s) (st : Step s s') : OnceInv s' := by
  obtain ⟨th, pc', sp, others, v⟩ := st.acting
  have g := act_once (n := fun j => tot (holdsI j) others) v.act (g.saw th v.mem) (fun hp => (g.inside v.mem hp).1)
    ⟨fun j => v.before (holdsI j) ▸ inv.acct j, inv.fresh, inv.cr1, inv.early⟩
  exact ⟨fun j => v.after (holdsI j) (fun _ => rfl) ▸ g.acct j, g.fresh, g.cr1, g.early⟩

/-- EXACTLY ONCE: when no thread is responsible for an instance any more and the disposal list has
been taken, the `Close` log is duplicate-free and contains exactly the created instances. -/
theorem OnceInv.exactly_once {s : Sys} (inv : OnceInv s) (hheld : ∀ th ∈ s.thr, th.pc.holds = [])
    (hlist : s.sh.disposables = none) :
    s.sh.closed.Nodup ∧ ∀ i, i ∈ s.sh.created ↔ i ∈ s.sh.closed := by
  have z : ∀ j, tot (holdsI j) s.thr = 0 := fun j =>
    tot_zero_of (fun t ht => by simp [holdsI, hheld t ht])
  refine ⟨?_, fun i => ?_⟩
  · rw [List.nodup_iff_count]
    intro j
    have := inv.acct j; have := inv.cr1 j; have := z j
    omega
  · have := inv.acct i
    rw [z i, hlist] at this
    simp only [Option.getD_none, List.count_nil, Nat.add_zero, Nat.zero_add] at this
    rw [← List.count_pos_iff, ← List.count_pos_iff, this]

end Godi.Conc
