import GodiProofs.Collection.Inv
/-! The list Build iterates is, up to order, the values of `services` together with the members of
all groups — nothing more, nothing twice. -/
namespace Godi.Coll
open Godi.Spec

theorem nodup_flatMap_of_key {κ α} (f : κ → List α) (g : α → κ) :
    ∀ (l : List κ), l.Nodup → (∀ k ∈ l, (f k).Nodup) → (∀ k ∈ l, ∀ d ∈ f k, g d = k) → (l.flatMap f).Nodup := by
  intro l
  induction l with
  | nil => intro _ _ _; simp
  | cons a t ih =>
    intro hn h1 h2
    have hn' := List.nodup_cons.1 hn
    simp only [List.flatMap_cons]
    refine List.nodup_append.2 ⟨h1 a (by simp), ih hn'.2 (fun k hk => h1 k (by simp [hk])) (fun k hk => h2 k (by simp [hk])), ?_⟩
    intro x hx y hy hxy
    subst hxy
    simp only [List.mem_flatMap] at hy
    obtain ⟨k, hk, hxk⟩ := hy
    have e1 := h2 a (by simp) x hx
    have e2 := h2 k (by simp [hk]) x hxk
    exact hn'.1 (by rw [← e1, e2]; exact hk)

theorem all_nodup {c : Coll} (inv : Inv c) : c.reg.all.Nodup := nodup_of_nodup_map _ inv.ids_nodup

/-- every entry of the list is reached through exactly one of the two maps -/
theorem entry_in_view {c : Coll} (inv : Inv c) (d : Desc) (hd : d ∈ c.reg.all) :
    (isSvc d = true ∧ c.reg.svc d.ident = some d) ∨ (isMember d = true ∧ d ∈ c.reg.grp d.gkey) := by
  by_cases hs : isSvc d = true
  · exact Or.inl ⟨hs, by rw [inv.svc_spec]; exact lookup_of_mem inv.uniq hd hs⟩
  · have hm : isMember d = true := by simpa [isSvc_not_member] using hs
    exact Or.inr ⟨hm, by rw [inv.grp_spec]; exact mem_members.2 ⟨hd, hm, rfl⟩⟩

theorem views_perm {c : Coll} (inv : Inv c) :
    c.reg.all.Perm (c.reg.skeys.filterMap c.reg.svc ++ c.reg.gkeys.flatMap c.reg.grp) := by
  have hsv : ∀ k d, c.reg.svc k = some d → d ∈ c.reg.all ∧ isSvc d = true ∧ d.ident = k := by
    intro k d h; rw [inv.svc_spec] at h; exact lookup_some h
  have hgr : ∀ g d, d ∈ c.reg.grp g → d ∈ c.reg.all ∧ isMember d = true ∧ d.gkey = g := by
    intro g d h; rw [inv.grp_spec] at h; exact mem_members.1 h
  apply (List.perm_ext_iff_of_nodup (all_nodup inv) ?_).2
  · intro d
    simp only [List.mem_append, List.mem_filterMap, List.mem_flatMap]
    constructor
    · intro hd
      rcases entry_in_view inv d hd with ⟨_, h⟩ | ⟨_, h⟩
      · exact Or.inl ⟨d.ident, (inv.skeys_spec _).2 (by rw [h]; rfl), h⟩
      · exact Or.inr ⟨d.gkey, (inv.gkeys_spec _).2 (fun he => by rw [he] at h; cases h), h⟩
    · rintro (⟨k, _, h⟩ | ⟨g, _, h⟩)
      · exact (hsv k d h).1
      · exact (hgr g d h).1
  · refine List.nodup_append.2 ⟨?_, ?_, ?_⟩
    · rw [filterMap_eq_flatMap]
      exact nodup_flatMap_of_key _ Desc.ident _ inv.skeys_nodup (fun k _ => by cases c.reg.svc k <;> simp)
        (fun k _ d h => (hsv k d (Option.mem_toList.1 h)).2.2)
    · refine nodup_flatMap_of_key _ Desc.gkey _ inv.gkeys_nodup ?_ (fun g _ d h => (hgr g d h).2.2)
      intro g _
      rw [inv.grp_spec, members_def]
      exact List.Nodup.sublist List.filter_sublist (all_nodup inv)
    · intro x hx y hy hxy
      subst hxy
      simp only [List.mem_filterMap] at hx
      simp only [List.mem_flatMap] at hy
      obtain ⟨k, _, hk⟩ := hx
      obtain ⟨g, _, hg⟩ := hy
      have h1 := (hsv k x hk).2.1
      have h2 := (hgr g x hg).2.1
      rw [isSvc_not_member, h2] at h1
      cases h1

end Godi.Coll
