import GodiProofs.Collection.Inv
/-!
# Every operation of the collection keeps the invariant; a rejected `addService` restores the registry

* `removeKey_inv`, `removeKey_all`: Remove/RemoveKeyed = dropping the identity from the list.
* `undo_last`: `rollbackOne` applied to the descriptor registered last restores the maps.
* `registerEach_spec`: the fan-out loop appends what it registered, and undoing those newest first
  restores the maps it started from.
* `addService_spec`: accepted ⇒ appended; rejected ⇒ the registry is the one before the call.
-/
namespace Godi.Coll
open Godi.Spec

/-! ### Remove -/

theorem removeKey_absent {c : Coll} {k : Ident} (h : c.reg.svc k = none) : removeKey c k = c := by
  unfold removeKey; rw [h]

theorem removeKey_present {c : Coll} {k : Ident} {d : Desc} (h : c.reg.svc k = some d) :
    removeKey c k = { c with reg := { c.reg.delSvc k with all := c.reg.all.filter (fun x => x.id != d.id) } } := by
  unfold removeKey; rw [h]

theorem removeIdent_def (l : Registry) (k : Ident) : removeIdent l k = l.filter (fun d => !svcAt k d) := rfl

/-- the pointer-based deletion is the removal of the identity from the list -/
theorem removeKey_all {c : Coll} (inv : Inv c) (k : Ident) :
    (removeKey c k).reg.all = removeIdent c.reg.all k := by
  rw [removeIdent_def]
  cases h : c.reg.svc k with
  | none =>
    rw [removeKey_absent h]
    have hn : lookup c.reg.all k = none := by rw [← inv.svc_spec]; exact h
    exact (List.filter_eq_self.2 fun x hx => by rw [Bool.not_eq_true', ← Bool.not_eq_true, svcAt_iff]; exact lookup_none hn x hx).symm
  | some d =>
    rw [removeKey_present h]
    have hl : lookup c.reg.all k = some d := by rw [← inv.svc_spec]; exact h
    obtain ⟨hd, hds, hdi⟩ := lookup_some hl
    -- under the invariant, `x` has `d`'s pointer iff it is the service registered under `k`
    refine List.filter_congr fun x hx => ?_
    have : x.id = d.id ↔ svcAt k x = true := by
      rw [svcAt_iff]
      constructor
      · intro hid; rw [id_inj inv hx hd hid]; exact ⟨hds, hdi⟩
      · intro ⟨hxs, hxi⟩
        rw [nodup_map_inj Desc.ident inv.uniq (List.mem_filter.2 ⟨hx, hxs⟩) (List.mem_filter.2 ⟨hd, hds⟩) (hxi.trans hdi.symm)]
    cases hs : svcAt k x
    · exact bne_iff_ne.2 fun hid => by rw [this.1 hid] at hs; cases hs
    · exact bne_eq_false_iff_eq.2 (this.2 hs)

theorem lookup_removeIdent (l : Registry) (k k' : Ident) :
    lookup (removeIdent l k) k' = if k' = k then none else lookup l k' := by
  rw [removeIdent_def, lookup_def, List.find?_filter]
  by_cases hk : k' = k
  · subst hk
    rw [if_pos rfl]
    exact List.find?_eq_none.2 fun x _ => by cases svcAt k' x <;> simp
  · rw [if_neg hk, lookup_def]
    congr 1
    funext a
    cases hsv : svcAt k' a with
    | false => simp
    | true =>
      have : svcAt k a = false := by
        rw [← Bool.not_eq_true, svcAt_iff]
        exact fun h => hk ((svcAt_iff.1 hsv).2.symm.trans h.2)
      simp [this]

theorem members_removeIdent (l : Registry) (k : Ident) (g : GKey) :
    members (removeIdent l k) g = members l g := by
  rw [removeIdent_def, members_def, List.filter_filter, members_def]
  congr 1
  funext a
  simp only [memberAt, svcAt, isSvc_not_member]
  cases isMember a <;> simp
theorem removeKey_inv {c : Coll} (inv : Inv c) (k : Ident) : Inv (removeKey c k) := by
  have hall := removeKey_all inv k
  cases h : c.reg.svc k with
  | none => rw [removeKey_absent h]; exact inv
  | some d =>
    have hrk := removeKey_present h
    rw [hrk] at hall ⊢
    simp only at hall
    have hsub : (c.reg.all.filter (fun x => x.id != d.id)).Sublist c.reg.all := List.filter_sublist
    refine ⟨?_, ?_, ?_, ?_, ?_, ?_, ?_, ?_, ?_⟩
    · intro x hx; exact inv.ids_lt x (hsub.subset hx)
    · exact List.Nodup.sublist (List.Sublist.map _ hsub) inv.ids_nodup
    · intro k'
      show upd c.reg.svc k none k' = lookup (c.reg.all.filter (fun x => x.id != d.id)) k'
      rw [hall, lookup_removeIdent]
      by_cases hk : k' = k
      · subst hk; simp
      · rw [upd_ne _ _ hk, if_neg hk]; exact inv.svc_spec k'
    · intro g
      show c.reg.grp g = members (c.reg.all.filter (fun x => x.id != d.id)) g
      rw [hall, members_removeIdent]; exact inv.grp_spec g
    · exact unique_filter inv.uniq _
    · intro k'
      show k' ∈ c.reg.skeys.erase k ↔ (upd c.reg.svc k none k').isSome = true
      rw [List.Nodup.mem_erase_iff inv.skeys_nodup]
      by_cases hk : k' = k
      · subst hk; simp
      · rw [upd_ne _ _ hk]; simp only [ne_eq, hk, not_false_eq_true, true_and]; exact inv.skeys_spec k'
    · exact List.Nodup.erase _ inv.skeys_nodup
    · exact inv.gkeys_spec
    · exact inv.gkeys_nodup

theorem removeKey_counters (c : Coll) (k : Ident) :
    (removeKey c k).nextId = c.nextId ∧ (removeKey c k).nextVoid = c.nextVoid := by
  unfold removeKey; split <;> exact ⟨rfl, rfl⟩

/-! ### rollback -/

theorem rollbackSvc_all (r : Reg) (d : Desc) : (rollbackSvc r d).all = r.all := by
  unfold rollbackSvc
  split
  · split <;> rfl
  · rfl

theorem rollbackOne_all (r : Reg) (d : Desc) : (rollbackOne r d).all = r.all := by
  unfold rollbackOne
  simp only []
  split
  · split
    · split <;> rfl
    · exact rollbackSvc_all r d
  · exact rollbackSvc_all r d

theorem rollbackSvc_congr {r r' : Reg} (h : MapsEq r r') (d : Desc) : MapsEq (rollbackSvc r d) (rollbackSvc r' d) := by
  have : r = { r' with all := r.all } := reg_ext h rfl
  rw [this]
  unfold rollbackSvc
  simp only []
  split
  · split <;> exact ⟨rfl, rfl, rfl, rfl⟩
  · exact ⟨rfl, rfl, rfl, rfl⟩

theorem rollbackOne_congr {r r' : Reg} (h : MapsEq r r') (d : Desc) : MapsEq (rollbackOne r d) (rollbackOne r' d) := by
  have hs := rollbackSvc_congr h d
  have : r = { r' with all := r.all } := reg_ext h rfl
  rw [this] at hs ⊢
  unfold rollbackOne
  simp only []
  split
  · split
    · split <;> exact ⟨rfl, rfl, rfl, rfl⟩
    · exact hs
  · exact hs

theorem foldl_rollback_all (l : List Desc) : ∀ r : Reg, (l.foldl rollbackOne r).all = r.all := by
  induction l with
  | nil => intro r; rfl
  | cons d t ih => intro r; rw [List.foldl_cons, ih, rollbackOne_all]

theorem foldl_rollback_congr (l : List Desc) : ∀ {r r' : Reg}, MapsEq r r' →
    MapsEq (l.foldl rollbackOne r) (l.foldl rollbackOne r') := by
  induction l with
  | nil => intro r r' h; exact h
  | cons d t ih => intro r r' h; exact ih (rollbackOne_congr h d)

theorem upd_upd_restore {κ α} [DecidableEq κ] (f : κ → α) (k : κ) (v : α) : upd (upd f k v) k (f k) = f := by
  funext x
  by_cases h : x = k
  · subst h; simp
  · simp [upd, h]

/-- undoing the registration made last restores the maps -/
theorem undo_last {c c' : Coll} {d0 d : Desc} (inv : Inv c) (r : Registered c d0 c' d) :
    MapsEq (rollbackOne c'.reg d) c.reg := by
  have hfresh : ∀ x ∈ c.reg.all, x.id ≠ d.id := fun x hx => by
    have := inv.ids_lt x hx; rw [r.id_eq]; omega
  rcases r.shape with ⟨_, hs, _, hfree, hsvc, hgrp, hskeys, hgkeys⟩ | ⟨hm, _, _, hsvc, hgrp, hskeys, hgkeys⟩
  · -- service path: the group test fails (all members are older), the services test succeeds
    have hnotin : d.ident ∉ c.reg.skeys := by
      intro hin
      have := (inv.skeys_spec d.ident).1 hin
      rw [hfree] at this; cases this
    rw [if_neg hnotin] at hskeys
    have hvia : rollbackSvc c'.reg d = c'.reg.delSvc d.ident := by
      unfold rollbackSvc; rw [hsvc]; simp
    have hres : MapsEq (c'.reg.delSvc d.ident) c.reg := by
      refine ⟨?_, ?_, hgkeys, hgrp⟩
      · show c'.reg.skeys.erase d.ident = c.reg.skeys
        rw [hskeys, List.erase_append_right _ hnotin]; simp
      · show upd c'.reg.svc d.ident none = c.reg.svc
        rw [hsvc, ← hfree]; exact upd_upd_restore _ _ _
    unfold rollbackOne
    simp only []
    split
    next m hm =>
      have hmem : m ∈ c.reg.all := by
        have : m ∈ c'.reg.grp d.gkey := by
          obtain ⟨ys, hys⟩ := List.getLast?_eq_some_iff.1 hm
          rw [hys]; simp
        rw [hgrp, inv.grp_spec] at this
        exact (mem_members.1 this).1
      rw [if_neg (hfresh m hmem), hvia]; exact hres
    next => rw [hvia]; exact hres
  · -- group path: the descriptor is the last member of its group
    have hlast : (c'.reg.grp d.gkey).getLast? = some d := by rw [hgrp]; simp
    unfold rollbackOne
    simp only []
    rw [hlast]
    simp only [if_true]
    split
    next hlen =>
      -- it was the only member: the key is deleted
      have hempty : c.reg.grp d.gkey = [] := by
        rw [hgrp] at hlen
        simp only [upd_self, List.length_append, List.length_cons, List.length_nil] at hlen
        exact List.length_eq_zero_iff.1 (by omega)
      have hnotin : d.gkey ∉ c.reg.gkeys := fun hin => (inv.gkeys_spec d.gkey).1 hin hempty
      rw [if_neg hnotin] at hgkeys
      refine ⟨hskeys, hsvc, ?_, ?_⟩
      · show c'.reg.gkeys.erase d.gkey = c.reg.gkeys
        rw [hgkeys, List.erase_append_right _ hnotin]; simp
      · show upd c'.reg.grp d.gkey [] = c.reg.grp
        rw [hgrp, ← hempty]; exact upd_upd_restore _ _ _
    next hlen =>
      have hne : c.reg.grp d.gkey ≠ [] := by
        intro he
        apply hlen
        rw [hgrp]; simp [he]
      have hin : d.gkey ∈ c.reg.gkeys := (inv.gkeys_spec d.gkey).2 hne
      rw [if_pos hin] at hgkeys
      refine ⟨hskeys, hsvc, ?_, ?_⟩
      · show (if d.gkey ∈ c'.reg.gkeys then c'.reg.gkeys else c'.reg.gkeys ++ [d.gkey]) = c.reg.gkeys
        rw [hgkeys, if_pos hin]
      · show upd c'.reg.grp d.gkey (c'.reg.grp d.gkey).dropLast = c.reg.grp
        rw [hgrp]
        simp only [upd_self, List.dropLast_concat]
        exact upd_upd_restore _ _ _

/-! ### the fan-out loop -/

/-- what a run of operations that only register did: appended `news`; undoing them newest first
gives back the maps; the pointer counter only grows -/
structure Appended (c c' : Coll) (news : List Desc) : Prop where
  all_eq : c'.reg.all = c.reg.all ++ news
  undo : MapsEq (news.reverse.foldl rollbackOne c'.reg) c.reg
  next_le : c.nextId ≤ c'.nextId

theorem Appended.refl (c : Coll) : Appended c c [] := ⟨by simp, MapsEq.refl _, Nat.le_refl _⟩

theorem Appended.cons {c c1 c' : Coll} {d0 d : Desc} {news : List Desc} (inv : Inv c)
    (r : Registered c d0 c1 d) (a : Appended c1 c' news) : Appended c c' (d :: news) := by
  refine ⟨?_, ?_, ?_⟩
  · rw [a.all_eq, r.all_eq]; simp
  · rw [List.reverse_cons, List.foldl_append]
    simp only [List.foldl_cons, List.foldl_nil]
    exact (rollbackOne_congr a.undo d).trans (undo_last inv r)
  · have := r.next; have := a.next_le; omega

theorem registerEach_spec (op : String) : ∀ (items : List Item) (c : Coll), Inv c →
    (∀ it ∈ items, it.d.key.isIdx = false) →
    Inv (registerEach op c items).1 ∧ ∃ news, Appended c (registerEach op c items).1 news := by
  intro items
  induction items with
  | nil => intro c inv _; exact ⟨inv, [], Appended.refl c⟩
  | cons it rest ih =>
    intro c inv hk
    unfold registerEach
    split
    · exact ⟨inv, [], Appended.refl c⟩
    · split
      next e he => exact ⟨inv, [], Appended.refl c⟩
      next c1 hc1 =>
        obtain ⟨d, hr⟩ := registerDescriptor_ok (hk it (by simp)) hc1
        have inv1 := hr.inv inv
        obtain ⟨inv', news, ha⟩ := ih c1 inv1 (fun x hx => hk x (by simp [hx]))
        exact ⟨inv', d :: news, Appended.cons inv hr ha⟩

/-! ### `addService` -/

theorem keyOfName_not_idx (n : Nat) : (keyOfName n).isIdx = false := by
  unfold keyOfName; split <;> rfl

theorem retItems_not_idx (r : Req) : ∀ (rets : List Nat) (i : Nat), ∀ it ∈ retItems r i rets, it.d.key.isIdx = false := by
  intro rets
  induction rets with
  | nil => intro i it h; cases h
  | cons t rest ih =>
    intro i it h
    unfold retItems at h
    simp only [List.mem_cons] at h
    rcases h with rfl | h
    · simp only []; split
      · exact keyOfName_not_idx _
      · rfl
    · exact ih (i + 1) it h

theorem linkSiblings_key (items : List Item) (h : ∀ it ∈ items, it.d.key.isIdx = false) :
    ∀ it ∈ linkSiblings items, it.d.key.isIdx = false := by
  intro it hit
  unfold linkSiblings at hit
  simp only [List.mem_map] at hit
  obtain ⟨x, hx, rfl⟩ := hit
  exact h x hx

theorem fanout_not_idx (r : Req) (key0 : Key) (hk0 : key0.isIdx = false) {op : String} {items : List Item}
    (h : r.fanout key0 = some (op, items)) : ∀ it ∈ items, it.d.key.isIdx = false := by
  unfold Req.fanout at h
  split at h
  · injection h with h; injection h with _ h; subst h
    apply linkSiblings_key
    intro it hit
    unfold Req.fieldItems at hit
    simp only [List.mem_map] at hit
    obtain ⟨f, _, rfl⟩ := hit
    exact keyOfName_not_idx _
  · split at h
    · injection h with h; injection h with _ h; subst h
      exact linkSiblings_key _ (retItems_not_idx r _ _)
    · split at h
      · injection h with h; injection h with _ h; subst h
        apply linkSiblings_key
        intro it hit
        unfold Req.asItems at hit
        simp only [List.mem_map] at hit
        obtain ⟨⟨ity, impl⟩, _, rfl⟩ := hit
        exact hk0
      · cases h

theorem addLocked_spec (c : Coll) (r : Req) (key0 : Key) (inv : Inv c) (hk0 : key0.isIdx = false) :
    Inv (addLocked c r key0).1 ∧ ∃ news, Appended c (addLocked c r key0).1 news := by
  unfold addLocked
  split
  · exact ⟨inv, [], Appended.refl c⟩
  · split
    next op items hf => exact registerEach_spec op items c inv (fanout_not_idx r key0 hk0 hf)
    next hf =>
      simp only []
      split
      next c' hc' =>
        obtain ⟨d, hr⟩ := registerDescriptor_ok (by exact hk0) hc'
        exact ⟨hr.inv inv, [d], Appended.cons inv hr (Appended.refl c')⟩
      next e he => exact ⟨inv, [], Appended.refl c⟩

theorem drawVoid_spec (r : Req) (c : Coll) :
    (r.drawVoid c).reg = c.reg ∧ (r.drawVoid c).nextId = c.nextId := by
  unfold Req.drawVoid; split <;> exact ⟨rfl, rfl⟩

theorem key0_not_idx (r : Req) (c : Coll) : (r.key0 c).isIdx = false := by
  unfold Req.key0
  split
  · rfl
  · split <;> rfl

theorem preChecks_cases (c : Coll) (r : Req) :
    ((preChecks c r).1 = c ∨ (preChecks c r).1 = r.drawVoid c) ∧
    ∀ k, (preChecks c r).2 = .ok k → k = r.key0 (r.drawVoid c) := by
  let P : Coll × Except Err Key → Prop := fun x =>
    (x.1 = c ∨ x.1 = r.drawVoid c) ∧ ∀ k, x.2 = .ok k → k = r.key0 (r.drawVoid c)
  show P (preChecks c r)
  unfold preChecks
  exact ite_ind (P := P) ⟨.inl rfl, nofun⟩ <| ite_ind (P := P) ⟨.inl rfl, nofun⟩ <| ite_ind (P := P) ⟨.inl rfl, nofun⟩ <|
    ite_ind (P := P) ⟨.inl rfl, nofun⟩ <| ite_ind (P := P) ⟨.inr rfl, nofun⟩ <| ite_ind (P := P) ⟨.inr rfl, nofun⟩
      ⟨.inr rfl, fun k h => (Except.ok.inj h).symm⟩

/-- `preChecks` touches nothing but the void-key counter, and the key it computes is never a
group-member number -/
theorem preChecks_spec (c : Coll) (r : Req) :
    (preChecks c r).1.reg = c.reg ∧ (preChecks c r).1.nextId = c.nextId ∧
    ∀ k, (preChecks c r).2 = .ok k → k.isIdx = false := by
  obtain ⟨h1, h2⟩ := preChecks_cases c r
  refine ⟨?_, ?_, ?_⟩
  · rcases h1 with h | h <;> rw [h]
    exact (drawVoid_spec r c).1
  · rcases h1 with h | h <;> rw [h]
    exact (drawVoid_spec r c).2
  · intro k hk; rw [h2 k hk]; exact key0_not_idx _ _

theorem inv_of_reg_eq {c c' : Coll} (inv : Inv c) (hr : c'.reg = c.reg) (hn : c.nextId ≤ c'.nextId) : Inv c' := by
  refine ⟨?_, ?_, ?_, ?_, ?_, ?_, ?_, ?_, ?_⟩
  · intro d hd; rw [hr] at hd; have := inv.ids_lt d hd; omega
  · rw [hr]; exact inv.ids_nodup
  · rw [hr]; exact inv.svc_spec
  · rw [hr]; exact inv.grp_spec
  · rw [hr]; exact inv.uniq
  · rw [hr]; exact inv.skeys_spec
  · rw [hr]; exact inv.skeys_nodup
  · rw [hr]; exact inv.gkeys_spec
  · rw [hr]; exact inv.gkeys_nodup

/-- `rollbackTo` at the mark taken before the registrations restores the registry -/
theorem rollbackTo_restores {c c' : Coll} {news : List Desc} (a : Appended c c' news) :
    rollbackTo c'.reg c.reg.all.length = c.reg := by
  unfold rollbackTo
  simp only []
  have hdrop : c'.reg.all.drop c.reg.all.length = news := by rw [a.all_eq]; exact List.drop_left
  rw [hdrop]
  apply reg_ext
  · exact a.undo
  · show ((news.reverse.foldl rollbackOne c'.reg).all).take c.reg.all.length = c.reg.all
    rw [foldl_rollback_all, a.all_eq]; exact List.take_left

/-- The main fact about `addService`: it keeps the invariant; an accepted call appends to the list;
a rejected call leaves the registry as it was. -/
theorem addService_spec (c : Coll) (r : Req) (inv : Inv c) :
    Inv (addService c r).1 ∧
    ((addService c r).2 = none → ∃ news, (addService c r).1.reg.all = c.reg.all ++ news) ∧
    ((addService c r).2 ≠ none → (addService c r).1.reg = c.reg) ∧
    c.nextId ≤ (addService c r).1.nextId := by
  generalize h : addService c r = x
  obtain ⟨c', res⟩ := x
  show Inv c' ∧ (res = none → ∃ news, c'.reg.all = c.reg.all ++ news) ∧ (res ≠ none → c'.reg = c.reg) ∧ c.nextId ≤ c'.nextId
  obtain ⟨hreg, hnext, hkey⟩ := preChecks_spec c r
  unfold addService at h
  split at h
  next c1 e hp =>
    rw [hp] at hreg hnext
    simp only at hreg hnext
    injection h with h1 h2; subst h1 h2
    exact ⟨inv_of_reg_eq inv hreg (by omega), (fun h => by cases h), fun _ => hreg, by omega⟩
  next c1 key0 hp =>
    rw [hp] at hreg hnext hkey
    simp only at hreg hnext hkey
    have inv1 : Inv c1 := inv_of_reg_eq inv hreg (by omega)
    obtain ⟨inv2, news, ha⟩ := addLocked_spec c1 r key0 inv1 (hkey key0 rfl)
    simp only [] at h
    split at h
    next c2 hl =>
      rw [hl] at inv2 ha
      simp only at inv2 ha
      injection h with h1 h2; subst h1 h2
      have := ha.next_le
      exact ⟨inv2, fun _ => ⟨news, by rw [ha.all_eq, hreg]⟩, fun h => absurd rfl h, by omega⟩
    next c2 e hl =>
      rw [hl] at inv2 ha
      simp only at inv2 ha
      injection h with h1 h2; subst h1 h2
      have hrb : rollbackTo c2.reg c1.reg.all.length = c1.reg := rollbackTo_restores ha
      have hfin : ({ c2 with reg := rollbackTo c2.reg c1.reg.all.length } : Coll).reg = c.reg := by
        show rollbackTo c2.reg c1.reg.all.length = c.reg
        rw [hrb, hreg]
      have hle : c.nextId ≤ c2.nextId := by have := ha.next_le; omega
      exact ⟨inv_of_reg_eq inv hfin hle, (fun h => by cases h), fun _ => hfin, hle⟩

end Godi.Coll
