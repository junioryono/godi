import GodiProofs.Collection.Reject
/-! An accepted call registers exactly the outputs it asked for, in order. -/
namespace Godi.Coll
open Godi.Spec

/-- type, group and constructor of a descriptor: what a request fixes for each of its outputs. Left
out: `id` and, for a group member, `key` are assigned by the registration; `life`, `void`, `inst`,
`stores` are copied unchanged by `registerDescriptor` and not compared here. -/
def Desc.sig (d : Desc) : Nat × Nat × Nat := (d.ty, d.grp, d.ctor)

theorem registerEach_accepts (op : String) : ∀ (items : List Item) (c : Coll), Inv c →
    (∀ it ∈ items, it.d.key.isIdx = false) → (registerEach op c items).2 = none →
    ∃ news, (registerEach op c items).1.reg.all = c.reg.all ++ news ∧
      news.map Desc.sig = items.map (fun it => it.d.sig) ∧
      ∀ p ∈ news.zip items, svcPath p.2.d → p.1.key = p.2.d.key := by
  intro items
  induction items with
  | nil => intro c _ _ _; exact ⟨[], by simp [registerEach], rfl, by simp⟩
  | cons it rest ih =>
    intro c inv hk
    unfold registerEach
    split
    · intro h; cases h
    · split
      · intro h; cases h
      next c1 hc1 =>
        intro hres
        obtain ⟨d, hr⟩ := registerDescriptor_ok (hk it (by simp)) hc1
        obtain ⟨news, h1, h2, h3⟩ := ih c1 (hr.inv inv) (fun x hx => hk x (by simp [hx])) hres
        refine ⟨d :: news, by rw [h1, hr.all_eq]; simp, ?_, ?_⟩
        · simp only [List.map_cons, h2, Desc.sig, hr.ty_eq, hr.grp_eq, hr.ctor_eq]
        · intro p hp
          simp only [List.zip_cons_cons, List.mem_cons] at hp
          rcases hp with rfl | hp
          · intro hsp
            rcases hr.shape with ⟨_, _, hkey, _⟩ | ⟨_, hnil, hg, _⟩
            · exact hkey
            · exfalso
              rcases hsp with h | h
              · exact h hnil
              · exact hg h
          · exact h3 p hp

/-- "nothing that is still registered stores an output under an identity held by another
registration (or by none)", for a given account `outs` of what an invocation stores: the clause can
then be read apart from `storeOuts`, whose filter is this very test; only `storeOuts` instantiates it -/
def NoGhostWith (outs : List Desc → Desc → List (Nat × Key × Nat)) (reg : Registry) : Prop :=
  ∀ d ∈ reg, ∀ s ∈ outs reg d, (lookup reg (s.1, s.2.1)).map (·.ctor) = some d.ctor

/-- with the storing rule of the repaired `createInstance` the clause holds for every registry -/
theorem noGhost_storeOuts (reg : Registry) : NoGhostWith storeOuts reg := by
  intro d _ s hs
  unfold storeOuts at hs
  simp only [List.mem_filter, beq_iff_eq] at hs
  exact hs.2

end Godi.Coll
