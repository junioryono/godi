import GodiProofs.Collection.Ops
/-! A registration that asks for an identity which is already taken is rejected. For a single
descriptor (`registerDescriptor_collision`) `AlreadyRegisteredError` is on the unwrap chain unless the
type is reserved; for a whole call (`addService_collision`) only the rejection is proved. -/
namespace Godi.Coll
open Godi.Spec

theorem registerDescriptor_collision (c : Coll) (d0 : Desc) (hp : svcPath d0)
    (hc : (c.reg.svc d0.ident).isSome = true) :
    ∃ e, registerDescriptor c d0 = .error e ∧ (reserved d0.ty = true ∨ eAlready d0.ty ∈ e.chain) := by
  unfold registerDescriptor
  split
  next hr => exact ⟨_, rfl, Or.inl hr⟩
  next hr =>
    simp only []
    have hp' : ({ d0 with id := c.nextId } : Desc).key ≠ .nil ∨ ({ d0 with id := c.nextId } : Desc).grp = 0 := hp
    rw [if_pos hp']
    have hc' : (c.reg.svc (Desc.ident { d0 with id := c.nextId })).isSome = true := hc
    rw [if_pos hc']
    split
    · exact ⟨_, rfl, Or.inr (by simp [eAlready, Err.chain])⟩
    · exact ⟨_, rfl, Or.inr (by simp [eAlready, eRegistration, Err.chain])⟩

theorem registerDescriptor_mono {c c' : Coll} {d0 : Desc} (hk : d0.key.isIdx = false)
    (h : registerDescriptor c d0 = .ok c') (k : Ident) (hs : (c.reg.svc k).isSome = true) :
    (c'.reg.svc k).isSome = true := by
  obtain ⟨d, r⟩ := registerDescriptor_ok hk h
  rcases r.shape with ⟨_, _, _, _, hsvc, _⟩ | ⟨_, _, _, hsvc, _⟩
  · rw [hsvc]
    by_cases hkk : k = d.ident
    · subst hkk; simp
    · rw [upd_ne _ _ hkk]; exact hs
  · rw [hsvc]; exact hs

theorem registerEach_collision (op : String) : ∀ (items : List Item) (c : Coll),
    (∀ it ∈ items, it.d.key.isIdx = false) →
    (∃ it ∈ items, svcPath it.d ∧ (c.reg.svc it.d.ident).isSome = true) →
    (registerEach op c items).2 ≠ none := by
  intro items
  induction items with
  | nil => intro c _ ⟨it, hit, _⟩; cases hit
  | cons it rest ih =>
    intro c hk ⟨x, hx, hxp, hxc⟩
    unfold registerEach
    split
    · simp
    · split
      · simp
      next c1 hc1 =>
        simp only [List.mem_cons] at hx
        rcases hx with rfl | hx
        · obtain ⟨e, he, _⟩ := registerDescriptor_collision c x.d hxp hxc
          rw [he] at hc1; cases hc1
        · apply ih c1 (fun y hy => hk y (by simp [hy]))
          exact ⟨x, hx, hxp, registerDescriptor_mono (hk it (by simp)) hc1 _ hxc⟩

/-- the descriptors a request asks for, after the fan-out -/
def Req.items (r : Req) (key0 : Key) : List Item :=
  match r.fanout key0 with
  | some (_, items) => items
  | none =>
    [{ d := { r.base with key := key0, grp := r.group, void := r.void, inst := r.inst,
                          stores := if key0 != .nil || r.group == 0 then [(r.primary, key0, r.group)] else [] } }]

theorem addLocked_collision (c : Coll) (r : Req) (key0 : Key) (hk0 : key0.isIdx = false)
    (h : ∃ it ∈ r.items key0, svcPath it.d ∧ (c.reg.svc it.d.ident).isSome = true) :
    (addLocked c r key0).2 ≠ none := by
  unfold addLocked
  split
  · simp
  · unfold Req.items at h
    split
    next op items hf =>
      rw [hf] at h
      exact registerEach_collision op items c (fanout_not_idx r key0 hk0 hf) h
    next hf =>
      rw [hf] at h
      simp only [List.mem_cons, List.not_mem_nil, or_false, exists_eq_left] at h
      obtain ⟨e, he, _⟩ := registerDescriptor_collision c _ h.1 h.2
      simp only []
      rw [he]
      simp

/-- A call that passes the checks made before the lock and asks for an identity that is already
registered is rejected. -/
theorem addService_collision (c : Coll) (r : Req) (key0 : Key) (hp : (preChecks c r).2 = .ok key0)
    (h : ∃ it ∈ r.items key0, svcPath it.d ∧ (c.reg.svc it.d.ident).isSome = true) :
    (addService c r).2 ≠ none := by
  obtain ⟨hreg, _, hkey⟩ := preChecks_spec c r
  unfold addService
  split
  · simp
  next c1 k0 hpc =>
    rw [hpc] at hp hreg hkey
    simp only at hp hreg hkey
    injection hp with hp; subst hp
    have hcol : ∃ it ∈ r.items k0, svcPath it.d ∧ (c1.reg.svc it.d.ident).isSome = true := by
      rw [hreg]; exact h
    have := addLocked_collision c1 r k0 (hkey k0 rfl) hcol
    simp only []
    split
    next c2 hl => rw [hl] at this; exact absurd rfl this
    next c2 e hl => simp

end Godi.Coll
