import GodiProofs.Collection.Basic
/-!
# The invariant of the collection

`Inv c`: the two maps are *functions of the descriptor list* — `services[k]` is the service entry
of the list with identity `k`, `groups[g]` is the sub-list of members of `g` in list order — the
list holds at most one service per identity, pointers are pairwise distinct and fresh, and the key
lists enumerate exactly the keys present. Preserved by every operation; established by
`NewCollection`.
-/
namespace Godi.Coll
open Godi.Spec

structure Inv (c : Coll) : Prop where
  ids_lt : ∀ d ∈ c.reg.all, d.id < c.nextId
  ids_nodup : (c.reg.all.map (·.id)).Nodup
  svc_spec : ∀ k, c.reg.svc k = lookup c.reg.all k
  grp_spec : ∀ g, c.reg.grp g = members c.reg.all g
  uniq : Unique c.reg.all
  skeys_spec : ∀ k, k ∈ c.reg.skeys ↔ (c.reg.svc k).isSome = true
  skeys_nodup : c.reg.skeys.Nodup
  gkeys_spec : ∀ g, g ∈ c.reg.gkeys ↔ c.reg.grp g ≠ []
  gkeys_nodup : c.reg.gkeys.Nodup

theorem inv_empty : Inv empty := by
  refine ⟨?_, ?_, ?_, ?_, ?_, ?_, ?_, ?_, ?_⟩ <;> simp [empty, lookup, members, Unique]

/-- the maps of two registries coincide (the descriptor list may differ) -/
def MapsEq (r r' : Reg) : Prop :=
  r.skeys = r'.skeys ∧ r.svc = r'.svc ∧ r.gkeys = r'.gkeys ∧ r.grp = r'.grp

theorem MapsEq.refl (r : Reg) : MapsEq r r := ⟨rfl, rfl, rfl, rfl⟩
theorem MapsEq.trans {a b c : Reg} (h1 : MapsEq a b) (h2 : MapsEq b c) : MapsEq a c :=
  ⟨h1.1.trans h2.1, h1.2.1.trans h2.2.1, h1.2.2.1.trans h2.2.2.1, h1.2.2.2.trans h2.2.2.2⟩

theorem reg_ext {r r' : Reg} (h : MapsEq r r') (ha : r.all = r'.all) : r = r' := by
  cases r; cases r'
  obtain ⟨h1, h2, h3, h4⟩ := h
  simp only at h1 h2 h3 h4 ha
  subst h1 h2 h3 h4 ha
  rfl

theorem id_inj {c : Coll} (inv : Inv c) {x y : Desc} (hx : x ∈ c.reg.all) (hy : y ∈ c.reg.all)
    (h : x.id = y.id) : x = y := nodup_map_inj (·.id) inv.ids_nodup hx hy h

/-! ### `registerDescriptor` -/

/-- the requested descriptor goes to `services` (not to a group); the registered one then has
`isSvc` (`Registered.shape`) -/
def svcPath (d : Desc) : Prop := d.key ≠ .nil ∨ d.grp = 0

instance (d : Desc) : Decidable (svcPath d) := by unfold svcPath; exact inferInstance

/-- what a successful `registerDescriptor` did -/
structure Registered (c : Coll) (d0 : Desc) (c' : Coll) (d : Desc) : Prop where
  all_eq : c'.reg.all = c.reg.all ++ [d]
  id_eq : d.id = c.nextId
  next : c'.nextId = c.nextId + 1
  ty_eq : d.ty = d0.ty
  grp_eq : d.grp = d0.grp
  ctor_eq : d.ctor = d0.ctor
  not_reserved : reserved d0.ty = false
  shape : (svcPath d0 ∧ isSvc d = true ∧ d.key = d0.key ∧ c.reg.svc d.ident = none ∧ c'.reg.svc = upd c.reg.svc d.ident (some d) ∧
            c'.reg.grp = c.reg.grp ∧
            c'.reg.skeys = (if d.ident ∈ c.reg.skeys then c.reg.skeys else c.reg.skeys ++ [d.ident]) ∧
            c'.reg.gkeys = c.reg.gkeys) ∨
          (isMember d = true ∧ d0.key = .nil ∧ d0.grp ≠ 0 ∧ c'.reg.svc = c.reg.svc ∧
            c'.reg.grp = upd c.reg.grp d.gkey (c.reg.grp d.gkey ++ [d]) ∧
            c'.reg.skeys = c.reg.skeys ∧
            c'.reg.gkeys = (if d.gkey ∈ c.reg.gkeys then c.reg.gkeys else c.reg.gkeys ++ [d.gkey]))

theorem registerDescriptor_ok {c : Coll} {d0 : Desc} {c' : Coll} (hk : d0.key.isIdx = false)
    (h : registerDescriptor c d0 = .ok c') : ∃ d, Registered c d0 c' d := by
  unfold registerDescriptor at h
  split at h
  · cases h
  next hres =>
    simp only [] at h
    split at h
    next hpath =>
      split at h
      · split at h <;> cases h
      next hfree =>
        injection h with h; subst h
        refine ⟨{ d0 with id := c.nextId }, ⟨rfl, rfl, rfl, rfl, rfl, rfl, by simpa using hres,
          Or.inl ⟨hpath, ?_, rfl, Option.not_isSome_iff_eq_none.1 hfree, rfl, rfl, rfl, rfl⟩⟩⟩
        simp [isSvc, hk]
    next hpath =>
      injection h with h; subst h
      simp only [ne_eq, not_or, Decidable.not_not] at hpath
      refine ⟨{ d0 with id := c.nextId, key := .idx ((c.reg.grp (Desc.gkey { d0 with id := c.nextId })).length + 1) },
        ⟨rfl, rfl, rfl, rfl, rfl, rfl, by simpa using hres, Or.inr ⟨rfl, hpath.1, hpath.2, rfl, rfl, rfl, rfl⟩⟩⟩

/-- a successful registration keeps the invariant -/
theorem Registered.inv {c c' : Coll} {d0 d : Desc} (inv : Inv c) (r : Registered c d0 c' d) : Inv c' := by
  have hall := r.all_eq
  have ids_lt : ∀ x ∈ c'.reg.all, x.id < c'.nextId := by
    intro x hx
    rw [hall, List.mem_append, List.mem_singleton] at hx
    rw [r.next]
    rcases hx with hx | rfl
    · exact Nat.lt_succ_of_lt (inv.ids_lt x hx)
    · rw [r.id_eq]; exact Nat.lt_succ_self _
  have ids_nodup : (c'.reg.all.map (·.id)).Nodup := by
    rw [hall, List.map_append]
    refine nodup_concat inv.ids_nodup fun h => ?_
    obtain ⟨x, hx, hid⟩ := List.mem_map.1 h
    exact Nat.lt_irrefl _ (hid ▸ r.id_eq ▸ inv.ids_lt x hx)
  rcases r.shape with ⟨_, hs, _, hfree, hsvc, hgrp, hskeys, hgkeys⟩ | ⟨hm, _, _, hsvc, hgrp, hskeys, hgkeys⟩
  · -- service path
    have hnone : lookup c.reg.all d.ident = none := by rw [← inv.svc_spec]; exact hfree
    have hmem : isMember d = false := by simpa [isSvc_not_member] using hs
    refine ⟨ids_lt, ids_nodup, ?_, ?_, ?_, ?_, ?_, ?_, ?_⟩
    · intro k
      rw [hsvc, hall, lookup_append_single]
      by_cases hk : k = d.ident
      · subst hk
        rw [hnone]
        simp [upd, svcAt, hs]
      · rw [upd_ne _ _ hk, inv.svc_spec k]
        cases lookup c.reg.all k with
        | some x => rfl
        | none => rw [Bool.eq_false_iff.2 fun h => hk (svcAt_iff.1 h).2.symm]; rfl
    · intro g
      rw [hgrp, hall, members_append_single, inv.grp_spec g]
      simp [memberAt, hmem]
    · rw [hall]; exact unique_append_svc inv.uniq hs hnone
    · intro k
      rw [hskeys, mem_addKey, hsvc, inv.skeys_spec k]
      by_cases hk : k = d.ident
      · subst hk; simp
      · rw [upd_ne _ _ hk]; simp only [hk, or_false]
    · rw [hskeys]; exact nodup_addKey inv.skeys_nodup _
    · intro g; rw [hgkeys, hgrp]; exact inv.gkeys_spec g
    · rw [hgkeys]; exact inv.gkeys_nodup
  · -- group path
    have hs : isSvc d = false := by simp [isSvc_not_member, hm]
    refine ⟨ids_lt, ids_nodup, ?_, ?_, ?_, ?_, ?_, ?_, ?_⟩
    · intro k
      rw [hsvc, hall, lookup_append_single, inv.svc_spec k]
      cases lookup c.reg.all k with
      | some x => rfl
      | none => simp [svcAt, hs]
    · intro g
      rw [hgrp, hall, members_append_single]
      by_cases hg : g = d.gkey
      · subst hg; simp [memberAt, hm, inv.grp_spec]
      · rw [upd_ne _ _ hg, inv.grp_spec g]
        have : memberAt g d = false := by
          simp only [memberAt, Bool.and_eq_false_iff, decide_eq_false_iff_not]
          exact Or.inr (fun h => hg h.symm)
        simp [this]
    · rw [hall]; exact unique_append_member inv.uniq hs
    · intro k; rw [hskeys, hsvc]; exact inv.skeys_spec k
    · rw [hskeys]; exact inv.skeys_nodup
    · intro g
      rw [hgkeys, mem_addKey, hgrp, inv.gkeys_spec g]
      by_cases hg : g = d.gkey
      · subst hg; simp
      · rw [upd_ne _ _ hg]; simp only [hg, or_false]
    · rw [hgkeys]; exact nodup_addKey inv.gkeys_nodup _

end Godi.Coll
