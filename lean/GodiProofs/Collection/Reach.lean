import GodiProofs.Collection.Ops
import GodiProofs.Collection.Module
/-! The invariant holds in every state a history of calls can reach; heap frame lemmas. -/
namespace Godi.Coll
open Godi.Spec

theorem step_inv (c : Coll) (o : Op) (inv : Inv c) : Inv (step c o).1 := by
  cases o with
  | add r => exact (addService_spec c r inv).1
  | rm ty => exact removeKey_inv inv _
  | rmk ty k => exact removeKey_inv inv _

theorem runOps_inv (ops : List Op) : ∀ c, Inv c → Inv (runOps c ops).1 := by
  induction ops with
  | nil => exact fun _ inv => inv
  | cons o rest ih =>
    intro c inv
    have h1 := step_inv c o inv
    have h2 := ih _ h1
    unfold runOps
    split <;> rename_i hs <;> rw [hs] at h1 h2
    · split <;> rename_i hr <;> rw [hr] at h2 <;> exact h2
    · exact h1

/-- `AddModules` leaves the collection the flattened direct calls leave -/
theorem addModules_state (c : Coll) (ms : Items) : (addModules c ms).1 = (runOps c (flattenItems ms)).1 := by
  have h1 := runAnn_items ms c []
  have h2 := runAnn_runOps (annotItems [] ms) c
  rw [h1] at h2
  have := congrArg Prod.fst h2
  simpa [addModules, flattenItems] using this

theorem call_inv (c : Coll) (x : Call) (inv : Inv c) : Inv (call c x) := by
  cases x with
  | op o => exact step_inv c o inv
  | mods ms =>
    show Inv (addModules c ms).1
    rw [addModules_state]; exact runOps_inv _ c inv

theorem runCalls_inv (cs : List Call) : ∀ c, Inv c → Inv (runCalls c cs) := by
  induction cs with
  | nil => intro c inv; exact inv
  | cons x rest ih => intro c inv; exact ih _ (call_inv c x inv)

theorem reachable_inv (cs : List Call) : Inv (runCalls empty cs) := runCalls_inv cs _ inv_empty

/-- a constructor runs at Build only if one of its descriptors is in the list Build iterates -/
theorem buildRuns_sound (l : List Desc) (n : Nat) (h : n ∈ buildRuns l) : ∃ d ∈ l, d.ctor = n := by
  unfold buildRuns at h
  simp only [List.mem_map, List.mem_filter] at h
  obtain ⟨d, ⟨hd, _⟩, rfl⟩ := h
  exact ⟨d, hd, rfl⟩

/-! ### references -/

theorem modify_fst {α} (h : Heap) (r : CollRef) (f : Coll → Coll × α) :
    (h.modify r f).1 = (h.store r (f (h.load r)).1).1 ∧ (h.modify r f).2.1 = (h.store r (f (h.load r)).1).2 := ⟨rfl, rfl⟩

theorem store_refs (h : Heap) (r : CollRef) (c : Coll) :
    (h.store r c).2.sref = r.sref ∧ (h.store r c).2.gref = r.gref ∧ (h.store r c).1.next = h.next := ⟨rfl, rfl, rfl⟩

theorem store_other (h : Heap) (r : CollRef) (c : Coll) :
    (∀ i, i ≠ r.sref → (h.store r c).1.smaps i = h.smaps i) ∧ (∀ i, i ≠ r.gref → (h.store r c).1.gmaps i = h.gmaps i) :=
  ⟨fun i hi => by simp [Heap.store, upd, hi], fun i hi => by simp [Heap.store, upd, hi]⟩

theorem load_store (h : Heap) (r : CollRef) (c : Coll) : (h.store r c).1.load (h.store r c).2 = c := by
  simp [Heap.store, Heap.load]

theorem runAll_cons (h : Heap) (r : CollRef) (f : Coll → Coll × Option Err) (rest : List (Coll → Coll × Option Err)) :
    h.runAll r (f :: rest) = (h.store r (f (h.load r)).1).1.runAll (h.store r (f (h.load r)).1).2 rest := rfl

/-- running operations through the references = running them on the value; other map objects of the
heap are not touched -/
theorem runAll_spec (fs : List (Coll → Coll × Option Err)) : ∀ (h : Heap) (r : CollRef),
    ((h.runAll r fs).1.load (h.runAll r fs).2 = applyAll (h.load r) fs) ∧
    (∀ i, i ≠ r.sref → (h.runAll r fs).1.smaps i = h.smaps i) ∧
    (∀ i, i ≠ r.gref → (h.runAll r fs).1.gmaps i = h.gmaps i) := by
  induction fs with
  | nil => intro h r; exact ⟨rfl, fun _ _ => rfl, fun _ _ => rfl⟩
  | cons f rest ih =>
    intro h r
    obtain ⟨i1, i2, i3⟩ := ih (h.store r (f (h.load r)).1).1 (h.store r (f (h.load r)).1).2
    exact ⟨i1.trans (by rw [load_store]; rfl), fun i hi => (i2 i hi).trans ((store_other ..).1 i hi),
      fun i hi => (i3 i hi).trans ((store_other ..).2 i hi)⟩

end Godi.Coll
