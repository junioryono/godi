import GodiProofs.Graph.Inv
/-!
# `CalculateDepths`: every depth it assigns is witnessed by a dependency chain (soundness half)

`CalculateDepths` relaxes labels along the dependents lists, starting from the nodes without dependencies. Whatever
the queue order and the fuel: a depth `m ≥ 0` assigned to `k` comes with a chain `k → … → root` of exactly `m`
dependency edges ending in a node without dependencies; nodes that are not reached keep `-1`. That on an acyclic graph
the label is the length of the LONGEST such chain is `Graph/DepthsComplete.lean`.
-/
namespace Godi.Graph
open Godi.Spec
open Godi.Kahn (Key)

/-- a chain of `m` dependency edges from `k` down to a node without dependencies -/
inductive Chain (E : Key → List Key) : Key → Nat → Prop
  | root {k : Key} : E k = [] → Chain E k 0
  | step {k c : Key} {m : Nat} : c ∈ E k → Chain E c m → Chain E k (m + 1)

/-- `g` is `g0` with other depth labels, each of which is `-1` or the length of a chain of `g0` -/
structure DInv (g0 g : Graph) : Prop where
  edges : g.edges = g0.edges
  nodes : g.nodes = g0.nodes
  ndependents : g.ndependents = g0.ndependents
  wit : ∀ k, g.depth k = -1 ∨ ∃ m : Nat, g.depth k = (m : Int) ∧ Chain g0.edges k m

theorem DInv.setDepth {g0 g : Graph} (inv : DInv g0 g) {d : Key} {m : Nat} {v : Int} (hv : v = m)
    (h : Chain g0.edges d m) : DInv g0 { g with depth := upd g.depth d v } := by
  refine ⟨inv.edges, inv.nodes, inv.ndependents, fun k => ?_⟩
  by_cases hk : k = d
  · subst hk; exact Or.inr ⟨m, by simp [hv], h⟩
  · simpa [hk] using inv.wit k

theorem DInv.chain {g0 g : Graph} (inv : DInv g0 g) {k : Key} (h : 0 ≤ g.depth k) :
    ∃ m : Nat, g.depth k = (m : Int) ∧ Chain g0.edges k m := by
  rcases inv.wit k with h' | h'
  · rw [h'] at h; exact absurd h (by decide)
  · exact h'

theorem DInv.dependents_edge {g0 g : Graph} (inv : DInv g0 g) (s : Synced g0) {cur : Key} (hc : cur ∈ g0.nodes) :
    ∀ d ∈ g.ndependents cur, d ∈ g0.nodes → cur ∈ g0.edges d :=
  fun _ hd hdn => (s.mem_dependents_iff hc hdn).1 (inv.ndependents ▸ hd)

theorem relaxDepth_cons_relax {g : Graph} {cur d : Key} (rest : List Key) (hd : d ∈ g.nodes)
    (h : g.depth cur + 1 < (g.nodes.length : Int) ∧ g.depth d < g.depth cur + 1) :
    relaxDepth g cur (d :: rest) =
      ((relaxDepth { g with depth := upd g.depth d (g.depth cur + 1) } cur rest).1,
        d :: (relaxDepth { g with depth := upd g.depth d (g.depth cur + 1) } cur rest).2) := by
  simp only [relaxDepth, hd, h, and_self, if_true]

theorem relaxDepth_cons_skip {g : Graph} {cur d : Key} (rest : List Key)
    (h : ¬ (d ∈ g.nodes ∧ g.depth cur + 1 < (g.nodes.length : Int) ∧ g.depth d < g.depth cur + 1)) :
    relaxDepth g cur (d :: rest) = relaxDepth g cur rest := by
  rw [relaxDepth]
  split
  next hd => rw [if_neg (fun hc => h ⟨hd, hc⟩)]
  next => rfl

theorem relaxDepth_inv (g0 : Graph) (cur : Key) : ∀ (l : List Key) (g : Graph), DInv g0 g → 0 ≤ g.depth cur →
    (∀ d ∈ l, d ∈ g0.nodes → cur ∈ g0.edges d) →
    DInv g0 (relaxDepth g cur l).1 ∧ (∀ x, g.depth x ≤ (relaxDepth g cur l).1.depth x) ∧
    (∀ x ∈ (relaxDepth g cur l).2, 0 ≤ (relaxDepth g cur l).1.depth x ∧ x ∈ g0.nodes) := by
  intro l
  induction l with
  | nil => intro g inv _ _; exact ⟨inv, fun _ => Int.le_refl _, fun x hx => by cases hx⟩
  | cons d rest ih =>
    intro g inv hc hdep
    have hrest : ∀ d ∈ rest, d ∈ g0.nodes → cur ∈ g0.edges d := fun x hx => hdep x (List.mem_cons_of_mem _ hx)
    by_cases hstep : d ∈ g.nodes ∧ g.depth cur + 1 < (g.nodes.length : Int) ∧ g.depth d < g.depth cur + 1
    · obtain ⟨hd, hcond⟩ := hstep
      rw [relaxDepth_cons_relax rest hd hcond]
      dsimp only
      have hd0 : d ∈ g0.nodes := inv.nodes ▸ hd
      -- the new label of `d` is witnessed by the chain of `cur`, one edge longer
      obtain ⟨m, hm, hch⟩ := inv.chain hc
      have inv' := inv.setDepth (v := g.depth cur + 1) (m := m + 1) (by rw [hm]; rfl)
        (Chain.step (hdep d (List.mem_cons_self ..) hd0) hch)
      have hmono : ∀ x, g.depth x ≤ upd g.depth d (g.depth cur + 1) x := by
        intro x
        by_cases hx : x = d
        · subst hx; rw [upd_self]; omega
        · rw [upd_ne _ _ hx]; exact Int.le_refl _
      obtain ⟨i1, m1, q1⟩ := ih _ inv' (Int.le_trans hc (hmono cur)) hrest
      refine ⟨i1, fun x => Int.le_trans (hmono x) (m1 x), ?_⟩
      intro x hx
      rcases List.mem_cons.1 hx with rfl | h
      · have := m1 x
        rw [show ({ g with depth := upd g.depth x (g.depth cur + 1) } : Graph).depth x = g.depth cur + 1 from
          upd_self ..] at this
        exact ⟨by omega, hd0⟩
      · exact q1 x h
    · rw [relaxDepth_cons_skip rest hstep]
      exact ih g inv hc hrest

theorem depthLoop_inv (g0 : Graph) (s : Synced g0) : ∀ (f : Nat) (g : Graph) (q : List Key), DInv g0 g →
    (∀ x ∈ q, 0 ≤ g.depth x ∧ x ∈ g0.nodes) → DInv g0 (depthLoop f g q) := by
  intro f
  induction f with
  | zero => intro g q inv _; exact inv
  | succ f ih =>
    intro g q inv hq
    cases q with
    | nil => exact inv
    | cons cur rest =>
      unfold depthLoop
      obtain ⟨hc, hcn⟩ := hq cur (List.mem_cons_self ..)
      obtain ⟨i1, m1, q1⟩ := relaxDepth_inv g0 cur (g.ndependents cur) g inv hc (inv.dependents_edge s hcn)
      apply ih _ _ i1
      intro x hx
      rcases List.mem_append.1 hx with h | h
      · obtain ⟨a, b⟩ := hq x (List.mem_cons_of_mem _ h)
        exact ⟨Int.le_trans a (m1 x), b⟩
      · exact q1 x h

def depthStart (g : Graph) (roots : List Key) : Graph := { g with depth := fun x => if x ∈ roots then 0 else -1 }

theorem foldl_rootDepth (l : List Key) : ∀ g1 : Graph,
    l.foldl (fun g k => { g with depth := upd g.depth k 0 }) g1 =
      { g1 with depth := fun x => if x ∈ l then 0 else g1.depth x } := by
  induction l with
  | nil => intro g1; simp
  | cons r rest ih =>
    intro g1
    rw [List.foldl_cons, ih]
    congr 1
    funext x
    by_cases hx : x = r
    · subst hx; simp
    · simp [hx]

theorem calculateDepthsWith_eq (g : Graph) (norder : List Key) :
    calculateDepthsWith g norder = depthLoop (g.nodes.length * g.nodes.length + g.nodes.length + 1)
      (depthStart g (norder.filter (fun k => (g.ndeps k).length == 0))) (norder.filter (fun k => (g.ndeps k).length == 0)) := by
  simp only [calculateDepthsWith, foldl_rootDepth, depthStart]

theorem mem_rootsOf {g : Graph} (b : Base g) {norder : List Key} {x : Key} (hx : x ∈ g.nodes) :
    x ∈ norder.filter (fun k => (g.ndeps k).length == 0) ↔ x ∈ norder ∧ g.edges x = [] := by
  simp [List.mem_filter, b.deps x hx]

theorem depthStart_dinv (g : Graph) (roots : List Key) (h : ∀ x ∈ roots, g.edges x = []) :
    DInv g (depthStart g roots) := by
  refine ⟨rfl, rfl, rfl, fun k => ?_⟩
  by_cases hk : k ∈ roots
  · exact Or.inr ⟨0, if_pos hk, Chain.root (h k hk)⟩
  · exact Or.inl (if_neg hk)

theorem depths_witnessed (g : Graph) (b : Base g) (s : Synced g) (norder : List Key) (hn : ∀ k ∈ norder, k ∈ g.nodes) (k : Key) :
    (calculateDepthsWith g norder).depth k = -1 ∨
    ∃ m : Nat, (calculateDepthsWith g norder).depth k = (m : Int) ∧ Chain g.edges k m := by
  have hroot : ∀ x ∈ norder.filter (fun k => (g.ndeps k).length == 0), x ∈ g.nodes ∧ g.edges x = [] :=
    fun x hx => ⟨hn x (List.mem_filter.1 hx).1, ((mem_rootsOf b (hn x (List.mem_filter.1 hx).1)).1 hx).2⟩
  rw [calculateDepthsWith_eq]
  refine (depthLoop_inv g s _ _ _ (depthStart_dinv g _ fun x hx => (hroot x hx).2) ?_).wit k
  intro x hx
  exact ⟨Int.le_of_eq (if_pos hx).symm, (hroot x hx).1⟩

end Godi.Graph
