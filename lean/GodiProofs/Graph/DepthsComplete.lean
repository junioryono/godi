import GodiProofs.Graph.Depths
import GodiProofs.Graph.Bridge
/-!
# `CalculateDepths` on an acyclic graph: the depth is the length of the LONGEST dependency chain

Completeness half. On an acyclic graph (a) a chain has fewer edges than there are nodes, so the guard `nd < len(nodes)` never
stops a relaxation; (b) the potential "sum over the nodes of `n - 1 - depth`" plus the queue length drops with every
iteration, so the fuel `n² + n + 1` is never exhausted and the loop ends with an empty queue; (c) a node that is not in
the queue is relaxed: every dependent of it has a larger depth. At the end every chain of `m` edges from `k` forces
`depth k ≥ m`; with the soundness half (`depths_witnessed`) the depth is the maximum.
-/
namespace Godi.Graph
open Godi.Spec
open Godi.Kahn (Key)

/-! ### (a) chains are short -/

theorem chain_list {E : Key → List Key} : ∀ {k : Key} {m : Nat}, Chain E k m →
    ∃ l : List Key, l.length = m + 1 ∧ l.Pairwise (fun a b => Reach E a b) ∧ ∀ x ∈ l, x = k ∨ Reach E k x := by
  intro k m h
  induction h with
  | @root k _ => exact ⟨[k], rfl, by simp, fun x hx => Or.inl (by simpa using hx)⟩
  | @step k c m hc _ ih =>
    obtain ⟨l, hl, hp, hm⟩ := ih
    have hr : ∀ x ∈ l, Reach E k x := by
      intro x hx
      rcases hm x hx with e | e
      · subst e; exact .single hc
      · exact .cons hc e
    refine ⟨k :: l, by simp [hl], List.pairwise_cons.2 ⟨hr, hp⟩, ?_⟩
    intro x hx
    rcases List.mem_cons.1 hx with e | e
    · exact Or.inl e
    · exact Or.inr (hr x e)

theorem chain_short (g : Graph) (b : Base g) (hac : Acyclic g) {k : Key} (hk : k ∈ g.nodes) {m : Nat}
    (h : Chain g.edges k m) : m + 1 ≤ g.nodes.length := by
  obtain ⟨l, hl, hp, hm⟩ := chain_list h
  have hnd : l.Nodup := by
    refine hp.imp ?_
    intro a c hr e
    subst e
    exact hac a hr
  have hsub : ∀ x ∈ l, x ∈ g.nodes := by
    intro x hx
    rcases hm x hx with e | e
    · subst e; exact hk
    · exact reach_mem_nodes b e hk
  have := hnd.length_le_of_subset hsub
  omega

/-! ### (b) the potential -/

def slack (n : Nat) (depth : Key → Int) (k : Key) : Nat := ((n : Int) - 1 - depth k).toNat

def pot (g : Graph) (N : List Key) : Nat := (N.map (slack N.length g.depth)).sum

theorem sum_map_upd (n : Nat) (f : Key → Int) (d : Key) (v : Int) (N : List Key) (hn : N.Nodup) (hd : d ∈ N) :
    (N.map (slack n (upd f d v))).sum + slack n f d = (N.map (slack n f)).sum + slack n (upd f d v) d :=
  sum_map_change (slack n f) (slack n (upd f d v)) d N hn hd fun y hy => by simp [slack, upd, hy]

theorem sum_le_mul (n : Nat) (f : Key → Nat) : ∀ (N : List Key), (∀ x ∈ N, f x ≤ n) → (N.map f).sum ≤ n * N.length := by
  intro N
  induction N with
  | nil => intro _; simp
  | cons x rest ih =>
    intro h
    simp only [List.map_cons, List.sum_cons, List.length_cons]
    have h1 := h x (List.mem_cons_self ..)
    have h2 := ih (fun y hy => h y (List.mem_cons_of_mem _ hy))
    rw [Nat.mul_succ]; omega

theorem pot_setDepth (g : Graph) (N : List Key) (hN : N.Nodup) {d : Key} (hd : d ∈ N) {v : Int}
    (h2 : g.depth d < v) (h3 : v < N.length) :
    pot { g with depth := upd g.depth d v } N + 1 ≤ pot g N := by
  have hsum := sum_map_upd N.length g.depth d v N hN hd
  have : slack N.length (upd g.depth d v) d + 1 ≤ slack N.length g.depth d := by
    simp only [slack, upd_self]; omega
  show (N.map (slack N.length (upd g.depth d v))).sum + 1 ≤ (N.map (slack N.length g.depth)).sum
  omega

/-- what relaxing the dependents `l` of `cur` does: each of them that is a node ends above `cur`, every label that
changed was queued (`out`), and each queue entry is paid for by the potential -/
structure RelaxPost (g0 g g' : Graph) (cur : Key) (l out : List Key) : Prop where
  done : ∀ d ∈ l, d ∈ g0.nodes → g.depth cur + 1 ≤ g'.depth d
  changed : ∀ x, g'.depth x ≠ g.depth x → x ∈ out
  pot : pot g' g0.nodes + out.length ≤ pot g g0.nodes
  curSame : g'.depth cur = g.depth cur

theorem relaxDepth_post (g0 : Graph) (b : Base g0) (hac : Acyclic g0) (cur : Key) :
    ∀ (l : List Key) (g : Graph), DInv g0 g → 0 ≤ g.depth cur →
    (∀ d ∈ l, d ∈ g0.nodes → cur ∈ g0.edges d) →
    RelaxPost g0 g (relaxDepth g cur l).1 cur l (relaxDepth g cur l).2 := by
  intro l
  induction l with
  | nil =>
    intro g _ _ _
    exact ⟨fun d hd => (by cases hd), fun x hx => absurd rfl hx, by simp [relaxDepth], rfl⟩
  | cons d rest ih =>
    intro g inv hc hdep
    have hrest : ∀ d ∈ rest, d ∈ g0.nodes → cur ∈ g0.edges d := fun x hx => hdep x (List.mem_cons_of_mem _ hx)
    obtain ⟨mc, hmc, hchain⟩ := inv.chain hc
    -- the guard `nd < n` holds: `nd` is the length of a chain of `d`
    have hguard : d ∈ g0.nodes → g.depth cur + 1 < (g.nodes.length : Int) := by
      intro hd0
      have := chain_short g0 b hac hd0 (Chain.step (hdep d (List.mem_cons_self ..) hd0) hchain)
      rw [inv.nodes, hmc]; omega
    by_cases hstep : d ∈ g.nodes ∧ g.depth cur + 1 < (g.nodes.length : Int) ∧ g.depth d < g.depth cur + 1
    · obtain ⟨hd, hg, hlt⟩ := hstep
      rw [relaxDepth_cons_relax rest hd ⟨hg, hlt⟩]
      dsimp only
      have hd0 : d ∈ g0.nodes := inv.nodes ▸ hd
      have hcd : cur ∈ g0.edges d := hdep d (List.mem_cons_self ..) hd0
      have hne : cur ≠ d := fun e => hac d (.single (e ▸ hcd))
      have inv' := inv.setDepth (v := g.depth cur + 1) (m := mc + 1) (by rw [hmc]; rfl) (Chain.step hcd hchain)
      have hcs : ({ g with depth := upd g.depth d (g.depth cur + 1) } : Graph).depth cur = g.depth cur := upd_ne _ _ hne
      have hc' : 0 ≤ ({ g with depth := upd g.depth d (g.depth cur + 1) } : Graph).depth cur := by rw [hcs]; exact hc
      have post := ih _ inv' hc' hrest
      refine ⟨?_, ?_, ?_, post.curSame.trans hcs⟩
      · intro x hx hxn
        rcases List.mem_cons.1 hx with rfl | e
        · -- depths only grow afterwards
          have hm := (relaxDepth_inv g0 cur rest _ inv' hc' hrest).2.1 x
          rwa [show ({ g with depth := upd g.depth x (g.depth cur + 1) } : Graph).depth x = g.depth cur + 1 from
            upd_self ..] at hm
        · have := post.done x e hxn
          rwa [hcs] at this
      · intro x hx
        by_cases hxd : x = d
        · exact hxd ▸ List.mem_cons_self ..
        · refine List.mem_cons_of_mem _ (post.changed x ?_)
          rwa [show ({ g with depth := upd g.depth d (g.depth cur + 1) } : Graph).depth x = g.depth x from
            upd_ne _ _ hxd]
      · -- the raised label pays for the queue entry
        have := pot_setDepth g g0.nodes b.nodesNodup hd0 hlt (inv.nodes ▸ hg)
        have := post.pot
        simp only [List.length_cons]
        omega
    · rw [relaxDepth_cons_skip rest hstep]
      have post := ih g inv hc hrest
      refine ⟨?_, post.changed, post.pot, post.curSame⟩
      intro x hx hxn
      rcases List.mem_cons.1 hx with rfl | e
      · -- not relaxed although it is a node and the guard holds: its label is large enough already
        have hm := (relaxDepth_inv g0 cur rest g inv hc hrest).2.1 x
        have : ¬ g.depth x < g.depth cur + 1 := fun h => hstep ⟨inv.nodes ▸ hxn, hguard hxn, h⟩
        omega
      · exact post.done x e hxn

/-! ### (c) the loop -/

/-- the loop invariant: labels are witnessed (`d`), a labelled node outside the queue has all its dependents above
it, queued nodes are labelled, and the nodes without dependencies are labelled -/
structure CInv (g0 g : Graph) (q : List Key) : Prop where
  d : DInv g0 g
  relaxed : ∀ u ∈ g0.nodes, 0 ≤ g.depth u → u ∉ q → ∀ x ∈ g0.nodes, u ∈ g0.edges x → g.depth u + 1 ≤ g.depth x
  queue : ∀ x ∈ q, 0 ≤ g.depth x ∧ x ∈ g0.nodes
  roots : ∀ k ∈ g0.nodes, g0.edges k = [] → 0 ≤ g.depth k

theorem depthLoop_complete (g0 : Graph) (b : Base g0) (s : Synced g0) (hac : Acyclic g0) :
    ∀ (f : Nat) (g : Graph) (q : List Key), CInv g0 g q → pot g g0.nodes + q.length + 1 ≤ f →
      CInv g0 (depthLoop f g q) [] := by
  intro f
  induction f with
  | zero => intro g q _ hf; omega
  | succ f ih =>
    intro g q inv hf
    cases q with
    | nil =>
      have : depthLoop (f + 1) g [] = g := by simp [depthLoop]
      rw [this]; exact inv
    | cons cur rest =>
      have e : depthLoop (f + 1) g (cur :: rest) =
          depthLoop f (relaxDepth g cur (g.ndependents cur)).1 (rest ++ (relaxDepth g cur (g.ndependents cur)).2) := by
        simp [depthLoop]
      rw [e]
      obtain ⟨hc, hcn⟩ := inv.queue cur (List.mem_cons_self ..)
      have hdep := inv.d.dependents_edge s hcn
      obtain ⟨i1, m1, q1⟩ := relaxDepth_inv g0 cur (g.ndependents cur) g inv.d hc hdep
      have post := relaxDepth_post g0 b hac cur (g.ndependents cur) g inv.d hc hdep
      apply ih
      · refine ⟨i1, ?_, ?_, ?_⟩
        · intro u hu hu0 hunq x hx hux
          have hur : u ∉ rest := fun h => hunq (List.mem_append.2 (Or.inl h))
          have hu2 : u ∉ (relaxDepth g cur (g.ndependents cur)).2 := fun h => hunq (List.mem_append.2 (Or.inr h))
          have hsame : (relaxDepth g cur (g.ndependents cur)).1.depth u = g.depth u :=
            Classical.byContradiction fun h => hu2 (post.changed u h)
          rw [hsame] at hu0 ⊢
          by_cases huc : u = cur
          · subst huc
            -- every dependent of `cur` was looked at
            have hxd : x ∈ g.ndependents u := inv.d.ndependents ▸ (s.mem_dependents_iff hu hx).2 hux
            exact post.done x hxd hx
          · have hunq' : u ∉ cur :: rest := by
              intro h; rcases List.mem_cons.1 h with h | h
              · exact huc h
              · exact hur h
            exact Int.le_trans (inv.relaxed u hu hu0 hunq' x hx hux) (m1 x)
        · intro x hx
          rcases List.mem_append.1 hx with h | h
          · obtain ⟨a, c⟩ := inv.queue x (List.mem_cons_of_mem _ h)
            exact ⟨Int.le_trans a (m1 x), c⟩
          · exact q1 x h
        · intro k hk hke
          exact Int.le_trans (inv.roots k hk hke) (m1 k)
      · have := post.pot
        simp only [List.length_append, List.length_cons] at hf ⊢
        omega

/-- a chain of `m` edges from `k` forces depth `≥ m` once the queue is empty -/
theorem chain_le_depth (g0 g : Graph) (b : Base g0) (inv : CInv g0 g []) : ∀ {k : Key} {m : Nat}, k ∈ g0.nodes →
    Chain g0.edges k m → (m : Int) ≤ g.depth k := by
  intro k m hk h
  induction h with
  | root he => exact inv.roots _ hk he
  | @step k c m hc _ ih =>
    have hcn : c ∈ g0.nodes := b.targets k hk c hc
    have h1 := ih hcn
    have h0 : 0 ≤ g.depth c := by omega
    have := inv.relaxed c hcn h0 (by simp) k hk hc
    omega

theorem calculateDepthsWith_cinv (g : Graph) (b : Base g) (s : Synced g) (hac : Acyclic g) (norder : List Key)
    (hp : norder.Perm g.nodes) : CInv g (calculateDepthsWith g norder) [] := by
  have hn : ∀ x ∈ norder, x ∈ g.nodes := fun x hx => hp.mem_iff.1 hx
  rw [calculateDepthsWith_eq]
  generalize hroots : norder.filter (fun k => (g.ndeps k).length == 0) = roots
  have hrl : ∀ x, x ∈ roots ↔ (x ∈ g.nodes ∧ g.edges x = []) := by
    intro x
    by_cases hx : x ∈ g.nodes
    · rw [← hroots, mem_rootsOf b hx, hp.mem_iff]
    · have : x ∉ roots := fun h => hx (hn x (List.mem_filter.1 (hroots ▸ h)).1)
      simp [hx, this]
  have c0 : CInv g (depthStart g roots) roots := by
    refine ⟨depthStart_dinv g roots fun x hx => ((hrl x).1 hx).2, ?_, ?_, ?_⟩
    · intro u _ hu0 hunq
      have hu1 : (0 : Int) ≤ -1 := (if_neg hunq : (depthStart g roots).depth u = -1) ▸ hu0
      exact absurd hu1 (by decide)
    · intro x hx
      exact ⟨Int.le_of_eq (if_pos hx).symm, ((hrl x).1 hx).1⟩
    · intro x hx hxe
      exact Int.le_of_eq (if_pos ((hrl x).2 ⟨hx, hxe⟩)).symm
  apply depthLoop_complete g b s hac _ _ _ c0
  -- the fuel: every slack is at most `n`, and there are at most `n` roots
  have hpot : pot (depthStart g roots) g.nodes ≤ g.nodes.length * g.nodes.length := by
    apply sum_le_mul
    intro x _
    have : -1 ≤ (depthStart g roots).depth x := by
      show (-1 : Int) ≤ if x ∈ roots then 0 else -1
      split <;> decide
    simp only [slack]; omega
  have hrlen : roots.length ≤ g.nodes.length := by
    rw [← hroots, ← hp.length_eq]; exact List.length_filter_le _ _
  omega

/-- On an acyclic graph every node has a chain: otherwise the nodes without one would each have a successor without
one, and a finite set like that contains a cycle. -/
theorem chain_exists (g : Graph) (b : Base g) (hac : Acyclic g) {k : Key} (hk : k ∈ g.nodes) : ∃ m, Chain g.edges k m := by
  apply Classical.byContradiction
  intro hno
  have hS : ∀ x, (x ∈ g.nodes ∧ ¬ ∃ m, Chain g.edges x m) →
      ∃ d ∈ g.edges x, d ∈ g.nodes ∧ ¬ ∃ m, Chain g.edges d m := by
    intro x ⟨hx, hnx⟩
    -- were all successors of `x` chained, `x` would be: through one of them, or as a root
    apply Classical.byContradiction
    intro hall
    cases hex : g.edges x with
    | nil => exact hnx ⟨0, .root hex⟩
    | cons d _ =>
      have hd : d ∈ g.edges x := hex ▸ List.mem_cons_self ..
      obtain ⟨m, hm⟩ : ∃ m, Chain g.edges d m :=
        Classical.byContradiction fun hnd => hall ⟨d, hd, b.targets x hx d hd, hnd⟩
      exact hnx ⟨m + 1, .step hd hm⟩
  obtain ⟨c, _, hc⟩ := Kahn.cycle_of_no_sink ⟨g.nodes, g.edges, fun _ => []⟩
    (fun x => x ∈ g.nodes ∧ ¬ ∃ m, Chain g.edges x m) (fun _ h => h.1) hS k ⟨hk, hno⟩
  exact hac c (Kahn.path_iff_reach.1 hc)

/-- On an acyclic graph, for every iteration order and with the fuel the model runs on, the depth of a node is the
length of its longest dependency chain down to a node without dependencies. -/
theorem depths_longest (g : Graph) (b : Base g) (s : Synced g) (hac : Acyclic g) (norder : List Key)
    (hp : norder.Perm g.nodes) (k : Key) (hk : k ∈ g.nodes) :
    ∃ m : Nat, (calculateDepthsWith g norder).depth k = (m : Int) ∧ Chain g.edges k m ∧
      ∀ m', Chain g.edges k m' → m' ≤ m := by
  have hle : ∀ m', Chain g.edges k m' → (m' : Int) ≤ (calculateDepthsWith g norder).depth k :=
    fun m' hm' => chain_le_depth g _ b (calculateDepthsWith_cinv g b s hac norder hp) hk hm'
  obtain ⟨m0, hm0⟩ := chain_exists g b hac hk
  rcases depths_witnessed g b s norder (fun x hx => hp.mem_iff.1 hx) k with h | ⟨m, hm, hc⟩
  · have := hle m0 hm0
    omega
  · exact ⟨m, hm, hc, fun m' hm' => by have := hle m' hm'; omega⟩

/-- the two halves as `Props/C19` quotes them; the alternative `= -1` does not occur (`depths_longest`) -/
theorem depths_exact (g : Graph) (b : Base g) (s : Synced g) (hac : Acyclic g) (norder : List Key)
    (hp : norder.Perm g.nodes) (k : Key) (hk : k ∈ g.nodes) :
    (∀ m', Chain g.edges k m' → (m' : Int) ≤ (calculateDepthsWith g norder).depth k) ∧
    ((calculateDepthsWith g norder).depth k = -1 ∨
      ∃ m : Nat, (calculateDepthsWith g norder).depth k = (m : Int) ∧ Chain g.edges k m) := by
  obtain ⟨m, hm, hc, hmax⟩ := depths_longest g b s hac norder hp k hk
  exact ⟨fun m' hm' => by have := hmax m' hm'; omega, Or.inr ⟨m, hm, hc⟩⟩

end Godi.Graph
