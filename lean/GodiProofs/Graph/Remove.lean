import GodiProofs.Graph.Ops
/-! `RemoveProvider` refines "delete the node and every edge pointing at it". -/
namespace Godi.Graph
open Godi.Kahn (Key)

/-- one iteration of the first loop of `RemoveProvider` for an adjacency list that contains `k` -/
def filterStep (g : Graph) (k f : Key) : Graph :=
  let g1 := { g with edges := upd g.edges f ((g.edges f).filter (· ≠ k)) }
  if f ∈ g.nodes then { g1 with ndeps := upd g.ndeps f ((g.ndeps f).filter (· ≠ k)) } else g1

theorem filterEdges_cons (g : Graph) (k f : Key) (rest : List Key) :
    filterEdges g k (f :: rest) =
      if k ∈ g.edges f then filterEdges (filterStep g k f) k rest else filterEdges g k rest := by
  simp only [filterEdges, filterStep]

theorem filterStep_fields (g : Graph) (k f : Key) :
    (filterStep g k f).nodes = g.nodes ∧ (filterStep g k f).ekeys = g.ekeys ∧
    (filterStep g k f).edges = upd g.edges f ((g.edges f).filter (· ≠ k)) ∧
    (filterStep g k f).ndeps = if f ∈ g.nodes then upd g.ndeps f ((g.ndeps f).filter (· ≠ k)) else g.ndeps := by
  unfold filterStep
  split <;> exact ⟨rfl, rfl, rfl, rfl⟩

/-- the first loop of `RemoveProvider`: every visited adjacency list loses `k`, and the `Dependencies`
of the nodes keep agreeing with their adjacency lists -/
theorem filterEdges_spec (k : Key) : ∀ (l : List Key) (g : Graph), (∀ x ∈ g.nodes, g.ndeps x = g.edges x) →
    (filterEdges g k l).nodes = g.nodes ∧ (filterEdges g k l).ekeys = g.ekeys ∧
    (∀ x, (filterEdges g k l).edges x = if x ∈ l then (g.edges x).filter (· ≠ k) else g.edges x) ∧
    (∀ x ∈ g.nodes, (filterEdges g k l).ndeps x = (filterEdges g k l).edges x) := by
  intro l
  induction l with
  | nil => intro g hd; exact ⟨rfl, rfl, fun x => by simp [filterEdges], hd⟩
  | cons f rest ih =>
    intro g hd
    rw [filterEdges_cons]
    split
    next hk =>
      obtain ⟨s1, s2, s3, s4⟩ := filterStep_fields g k f
      have hd' : ∀ x ∈ (filterStep g k f).nodes, (filterStep g k f).ndeps x = (filterStep g k f).edges x := by
        intro x hx
        rw [s1] at hx
        rw [s3, s4]
        by_cases hxf : x = f
        · subst hxf; simp [hx, hd x hx]
        · split <;> simp [upd_ne _ _ hxf, hd x hx]
      obtain ⟨i1, i2, i3, i4⟩ := ih _ hd'
      refine ⟨i1.trans s1, i2.trans s2, fun x => ?_, fun x hx => i4 x (s1 ▸ hx)⟩
      rw [i3 x, s3]
      by_cases hxf : x = f
      · subst hxf
        simp only [upd_self, List.mem_cons, true_or, ↓reduceIte]
        split
        · simp [List.filter_filter]
        · rfl
      · simp only [upd_ne _ _ hxf, List.mem_cons, hxf, false_or]
    next hk =>
      obtain ⟨i1, i2, i3, i4⟩ := ih g hd
      refine ⟨i1, i2, fun x => ?_, i4⟩
      rw [i3 x]
      by_cases hxf : x = f
      · subst hxf
        simp only [List.mem_cons, true_or, ↓reduceIte]
        split
        · rfl
        · exact (filter_ne_eq_self _ k hk).symm
      · simp only [List.mem_cons, hxf, false_or]

theorem dropDependent_frame (k : Key) : ∀ (l : List Key) (g : Graph),
    (dropDependent g k l).nodes = g.nodes ∧ (dropDependent g k l).ekeys = g.ekeys ∧
    (dropDependent g k l).edges = g.edges ∧ (dropDependent g k l).ndeps = g.ndeps := by
  intro l
  induction l with
  | nil => intro g; simp [dropDependent]
  | cons d rest ih =>
    intro g
    unfold dropDependent
    split
    · obtain ⟨a, b, c, e⟩ := ih { g with ndependents := upd g.ndependents d ((g.ndependents d).filter (· ≠ k)) }
      exact ⟨a, b, c, e⟩
    · exact ih g

/-- `RemoveProvider` on a known node: the node is gone, every adjacency list has lost it, everything
else is as before; the structural invariant holds again and all derived fields are in sync -/
theorem removeProvider_refines (g : Graph) (b : Base g) (k : Key) (hk : k ∈ g.nodes) :
    Base (removeProvider g k) ∧ Synced (removeProvider g k) ∧
    (∀ x, x ∈ (removeProvider g k).nodes ↔ x ∈ g.nodes ∧ x ≠ k) ∧
    (∀ x, (removeProvider g k).edges x = if x = k then [] else (g.edges x).filter (· ≠ k)) := by
  unfold removeProvider
  simp only [hk, not_true_eq_false, ↓reduceIte]
  -- g1: node and its adjacency list deleted
  generalize hg1 : delEdges (delNode g k) k = g1
  have n1 : g1.nodes = g.nodes.erase k := by rw [← hg1]; rfl
  have k1 : g1.ekeys = g.ekeys.erase k := by rw [← hg1]; rfl
  have e1 : g1.edges = upd g.edges k [] := by rw [← hg1]; rfl
  have d1 : g1.ndeps = g.ndeps := by rw [← hg1]; rfl
  have memErase : ∀ x, x ∈ g.nodes.erase k ↔ x ∈ g.nodes ∧ x ≠ k := by
    intro x; rw [b.nodesNodup.mem_erase_iff]; exact and_comm
  have memEraseK : ∀ x, x ∈ g.ekeys.erase k ↔ x ∈ g.ekeys ∧ x ≠ k := by
    intro x; rw [b.ekeysNodup.mem_erase_iff]; exact and_comm
  have hd1 : ∀ x ∈ g1.nodes, g1.ndeps x = g1.edges x := by
    intro x hx
    rw [n1, memErase] at hx
    rw [d1, e1, upd_ne _ _ hx.2, b.deps x hx.1]
  obtain ⟨f1, f2, f3, f4⟩ := filterEdges_spec k g1.ekeys g1 hd1
  generalize hg2 : filterEdges g1 k g1.ekeys = g2 at f1 f2 f3 f4
  obtain ⟨r1, r2, r3, r4⟩ := dropDependent_frame k (g.ndeps k) g2
  generalize hg3 : dropDependent g2 k (g.ndeps k) = g3 at r1 r2 r3 r4
  have hedges : ∀ x, g3.edges x = if x = k then [] else (g.edges x).filter (· ≠ k) := by
    intro x
    rw [r3, f3 x, e1, k1]
    by_cases hxk : x = k
    · subst hxk
      have : x ∉ g.ekeys.erase x := by rw [memEraseK]; simp
      simp [this]
    · simp only [hxk, ↓reduceIte, upd_ne _ _ hxk]
      split
      · rfl
      next hx =>
        have : x ∉ g.ekeys := fun h => hx ((memEraseK x).2 ⟨h, hxk⟩)
        simp [b.offKeys x this]
  have hnodes3 : g3.nodes = g.nodes.erase k := by rw [r1, f1, n1]
  have hekeys3 : g3.ekeys = g.ekeys.erase k := by rw [r2, f2, k1]
  have b3 : Base g3 := by
    refine ⟨by rw [hnodes3]; exact b.nodesNodup.erase k, by rw [hekeys3]; exact b.ekeysNodup.erase k, ?_, ?_, ?_, ?_⟩
    · intro x hx
      rw [hekeys3, memEraseK] at hx
      rw [hnodes3, memErase]; exact ⟨b.ekeysSub x hx.1, hx.2⟩
    · intro x hx d hd
      rw [hnodes3, memErase] at hx ⊢
      rw [hedges x] at hd
      simp only [hx.2, ↓reduceIte, List.mem_filter, ne_eq, decide_eq_true_eq] at hd
      exact ⟨b.targets x hx.1 d hd.1, hd.2⟩
    · intro x hx
      rw [hekeys3, memEraseK] at hx
      rw [hedges x]
      by_cases hxk : x = k
      · simp [hxk]
      · have : x ∉ g.ekeys := fun h => hx ⟨h, hxk⟩
        simp [hxk, b.offKeys x this]
    · intro x hx
      rw [hnodes3, ← n1] at hx
      rw [r4, r3]; exact f4 x hx
  refine ⟨setFlags_base _ true true (updateDegreesWith_base g3 g3.ekeys b3),
    setFlags_synced _ true true (updateDegreesWith_synced g3 g3.ekeys (List.Perm.refl _) b3), ?_, ?_⟩
  · intro x
    show x ∈ (updateDegreesWith g3 g3.ekeys).nodes ↔ _
    rw [updateDegreesWith_nodes, hnodes3, memErase]
  · intro x
    show (updateDegreesWith g3 g3.ekeys).edges x = _
    rw [updateDegreesWith_edges]; exact hedges x

end Godi.Graph
