import GodiProofs.Graph.CyclePath
/-!
# `findCyclePath` finds a path whenever the node is on a cycle

The depth-first `search` of graph.go, with the fuel the model runs on: when it answers "no path" from the start node,
the nodes it visited are closed under the edge relation and none of their edges leads to the start — so the start is on
no cycle. Hence a circular-dependency error always carries a path (`CircularDependencyError.Path` is never empty), and
by `findCyclePath_sound` that path is a real closed walk. Fuel: every nested call marks a node of the graph that was
unmarked (`unv`, as for `GetTransitiveDependencies`).
-/
namespace Godi.Graph
open Godi.Kahn (Key)
open Godi.Spec

/-- what a failed search leaves behind -/
structure NoPath (E : Key → List Key) (start : Key) (vis vis2 : List Key) : Prop where
  sub : ∀ x ∈ vis, x ∈ vis2
  closed : ∀ x ∈ vis2, x ∉ vis → ∀ y ∈ E x, y ≠ start ∧ y ∈ vis2

theorem searchList_cons_seen (rec : Key → List Key → Option (List Key) × List Key) {start n : Key} (rest : List Key)
    {vis : List Key} (h1 : n ≠ start) (h2 : n ∈ vis) :
    searchList rec start (n :: rest) vis = searchList rec start rest vis := by
  simp only [searchList, h1, h2, if_false, if_true]

theorem searchList_cons_none (rec : Key → List Key → Option (List Key) × List Key) {start n : Key} (rest : List Key)
    {vis : List Key} (h1 : n ≠ start) (h2 : n ∉ vis) (h3 : (rec n (n :: vis)).1 = none) :
    searchList rec start (n :: rest) vis = searchList rec start rest (rec n (n :: vis)).2 := by
  cases hr : rec n (n :: vis) with
  | mk a v =>
    rw [hr] at h3
    cases (h3 : a = none)
    simp only [searchList, h1, h2, if_false, hr]

theorem searchList_cons_fst_none (rec : Key → List Key → Option (List Key) × List Key) {start n : Key} {rest vis : List Key}
    (h : (searchList rec start (n :: rest) vis).1 = none) :
    n ≠ start ∧ (n ∉ vis → (rec n (n :: vis)).1 = none) := by
  refine ⟨fun e => by simp [searchList, e] at h, fun h2 => ?_⟩
  have h1 : n ≠ start := fun e => by simp [searchList, e] at h
  cases hr : rec n (n :: vis) with
  | mk a v =>
    cases a with
    | none => rfl
    | some p => simp [searchList, h1, h2, hr] at h

theorem search_succ (E : Key → List Key) (start : Key) (f : Nat) (cur : Key) (vis : List Key) :
    ((search E start (f + 1) cur vis).1 = none ↔ (searchList (search E start f) start (E cur) vis).1 = none) ∧
    (search E start (f + 1) cur vis).2 = (searchList (search E start f) start (E cur) vis).2 := by
  cases hs : searchList (search E start f) start (E cur) vis with
  | mk res v => cases res <;> simp [search, hs]

theorem searchList_none (E : Key → List Key) (start : Key) (U : List Key) (f : Nat)
    (ih : ∀ cur vis, cur ∈ U → unv U vis + 1 ≤ f → (search E start f cur vis).1 = none →
      NoPath E start vis (search E start f cur vis).2 ∧ ∀ y ∈ E cur, y ≠ start ∧ y ∈ (search E start f cur vis).2) :
    ∀ (l vis : List Key), (∀ y ∈ l, y ∈ U) → unv U vis ≤ f → (searchList (search E start f) start l vis).1 = none →
      NoPath E start vis (searchList (search E start f) start l vis).2 ∧
        ∀ y ∈ l, y ≠ start ∧ y ∈ (searchList (search E start f) start l vis).2 := by
  intro l
  induction l with
  | nil =>
    intro vis _ _ _
    exact ⟨⟨fun _ h => h, fun x hx hn => absurd hx hn⟩, fun y hy => by cases hy⟩
  | cons n rest ihl =>
    intro vis hU hf hnone
    have hrU : ∀ y ∈ rest, y ∈ U := fun y hy => hU y (List.mem_cons_of_mem _ hy)
    obtain ⟨hns, hrec⟩ := searchList_cons_fst_none _ hnone
    by_cases hnv : n ∈ vis
    · rw [searchList_cons_seen _ rest hns hnv] at hnone ⊢
      obtain ⟨np, hm⟩ := ihl vis hrU hf hnone
      exact ⟨np, List.forall_mem_cons.2 ⟨⟨hns, np.sub _ hnv⟩, hm⟩⟩
    · rw [searchList_cons_none _ rest hns hnv (hrec hnv)] at hnone ⊢
      have hnU : n ∈ U := hU n (List.mem_cons_self ..)
      have hlt := unv_lt U hnU hnv
      -- the nested call on `n`, marked before the call, then the rest of the list
      obtain ⟨np1, hm1⟩ := ih n (n :: vis) hnU (by omega) (hrec hnv)
      have hfv : unv U (search E start f n (n :: vis)).2 ≤ f :=
        Nat.le_trans (unv_mono U (fun x hx => np1.sub x (List.mem_cons_of_mem _ hx))) hf
      obtain ⟨np2, hm2⟩ := ihl _ hrU hfv hnone
      refine ⟨⟨fun x hx => np2.sub x (np1.sub x (List.mem_cons_of_mem _ hx)), ?_⟩,
        List.forall_mem_cons.2 ⟨⟨hns, np2.sub _ (np1.sub _ (List.mem_cons_self ..))⟩, hm2⟩⟩
      exact swept_trans (swept_node np1.closed hm1) (fun y h => ⟨h.1, np2.sub y h.2⟩) np2.closed

theorem search_none (E : Key → List Key) (start : Key) (U : List Key) (hU : ∀ x ∈ U, ∀ y ∈ E x, y ∈ U) :
    ∀ (f : Nat) (cur : Key) (vis : List Key), cur ∈ U → unv U vis + 1 ≤ f → (search E start f cur vis).1 = none →
      NoPath E start vis (search E start f cur vis).2 ∧ ∀ y ∈ E cur, y ≠ start ∧ y ∈ (search E start f cur vis).2 := by
  intro f
  induction f with
  | zero => intro cur vis _ hf _; omega
  | succ f ih =>
    intro cur vis hc hf hnone
    obtain ⟨e1, e2⟩ := search_succ E start f cur vis
    rw [e2]
    exact searchList_none E start U f ih (E cur) vis (hU cur hc) (by omega) (e1.1 hnone)

theorem findCyclePath_complete (g : Graph) (b : Base g) (k : Key) (h : Reach g.edges k k) :
    ∃ p, findCyclePath g k = some p := by
  cases hs : (search g.edges k (g.nodes.length + 1) k []).1 with
  | some q => exact ⟨q ++ [k], by unfold findCyclePath; rw [hs]⟩
  | none =>
    exfalso
    -- the fuel `n + 1`: every nested call marks a node that was unmarked, and the outermost call marks none
    have hf : unv g.nodes [] + 1 ≤ g.nodes.length + 1 := Nat.succ_le_succ (unv_nil_le g.nodes)
    obtain ⟨np, hm⟩ := search_none g.edges k g.nodes b.targets _ k [] (reach_src_mem_nodes b h) hf hs
    -- everything reachable from k lies in the visited set and is not k: no edge of k or of the visited set leads to k
    exact (h.targets hm (fun x hx => np.closed x hx.2 (by simp))).1 rfl

/-- a circular-dependency report always carries a path -/
theorem detectCyclesFrom_has_path (g : Graph) (b : Base g) (s k : Key) (path : Option (List Key)) (g' : Graph)
    (h : detectCyclesFrom g s = (g', .cycle k path)) : ∃ p, path = some p := by
  obtain ⟨_, rfl⟩ := detectCyclesFrom_cycle h
  exact findCyclePath_complete g b k (detectCyclesFrom_sound g s k _ g' h).1

end Godi.Graph
