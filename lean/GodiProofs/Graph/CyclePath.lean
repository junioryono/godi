import GodiProofs.Graph.Bridge
import GodiProofs.Graph.Detect
import GodiProofs.Graph.DfsFuel
/-! `findCyclePath` only reports real closed walks. `detectCyclesFrom`, on the graph state: it never runs out of fuel,
reports only nodes that lie on a cycle, and a clean run certifies that no cycle is reachable from the start; the
loop of `DetectCycles` over the nodes answers `ok` exactly on acyclic graphs. -/
namespace Godi.Graph
open Godi.Kahn (Key)
open Godi.Spec

theorem isWalk_cons_cons (edges : Key → List Key) (a b : Key) (rest : List Key) :
    isWalk edges (a :: b :: rest) = (decide (b ∈ edges a) && isWalk edges (b :: rest)) := by
  simp [isWalk]

def WalkTo (edges : Key → List Key) (start n : Key) (q : List Key) : Prop :=
  q.head? = some n ∧ isWalk edges (q ++ [start]) = true

theorem searchList_sound (edges : Key → List Key) (start : Key)
    (rec : Key → List Key → Option (List Key) × List Key)
    (hrec : ∀ n v q, (rec n v).1 = some q → WalkTo edges start n q) :
    ∀ (l vis : List Key) (p : List Key), (searchList rec start l vis).1 = some p →
      (p = [] ∧ start ∈ l) ∨ (∃ n ∈ l, WalkTo edges start n p) := by
  intro l
  induction l with
  | nil => intro vis p h; simp [searchList] at h
  | cons n rest ih =>
    intro vis p h
    unfold searchList at h
    split at h
    next hn =>
      simp at h; subst h; exact Or.inl ⟨rfl, by simp [hn]⟩
    next hn =>
      split at h
      · rcases ih _ _ h with ⟨h1, h2⟩ | ⟨m, hm, hg⟩
        · exact Or.inl ⟨h1, List.mem_cons_of_mem _ h2⟩
        · exact Or.inr ⟨m, List.mem_cons_of_mem _ hm, hg⟩
      · split at h
        next q v heq =>
          simp at h; subst h
          exact Or.inr ⟨n, by simp, hrec n (n :: vis) q (by rw [heq])⟩
        next v heq =>
          rcases ih _ _ h with ⟨h1, h2⟩ | ⟨m, hm, hg⟩
          · exact Or.inl ⟨h1, List.mem_cons_of_mem _ h2⟩
          · exact Or.inr ⟨m, List.mem_cons_of_mem _ hm, hg⟩

theorem search_sound (edges : Key → List Key) (start : Key) :
    ∀ (f : Nat) (cur : Key) (vis q : List Key), (search edges start f cur vis).1 = some q →
      WalkTo edges start cur q := by
  intro f
  induction f with
  | zero => intro cur vis q h; simp [search] at h
  | succ f ih =>
    intro cur vis q h
    unfold search at h
    split at h
    next p v heq =>
      simp at h; subst h
      have hl := searchList_sound edges start (search edges start f) (fun n v q hq => ih n v q hq)
        (edges cur) vis p (by rw [heq])
      rcases hl with ⟨rfl, hs⟩ | ⟨n, hn, hg1, hg2⟩
      · exact ⟨rfl, by simp [isWalk, hs]⟩
      · refine ⟨rfl, ?_⟩
        cases p with
        | nil => simp at hg1
        | cons a rest =>
          simp at hg1; subst hg1
          simp only [List.cons_append] at hg2 ⊢
          rw [isWalk_cons_cons]; simp [hn, hg2]
    next v heq => simp at h

theorem reach_of_isWalk (edges : Key → List Key) : ∀ (l : List Key) (a b : Key),
    isWalk edges (a :: l ++ [b]) = true → Reach edges a b := by
  intro l
  induction l with
  | nil => intro a b h; simp [isWalk] at h; exact .single h
  | cons c rest ih =>
    intro a b h
    simp only [List.cons_append] at h
    rw [isWalk_cons_cons] at h
    simp only [Bool.and_eq_true, decide_eq_true_eq] at h
    exact .cons h.1 (ih c b h.2)

theorem findCyclePath_some {g : Graph} {start : Key} {p : List Key} (h : findCyclePath g start = some p) :
    ∃ rest, p = start :: rest ++ [start] ∧ isWalk g.edges (start :: rest ++ [start]) = true := by
  unfold findCyclePath at h
  split at h
  next q heq =>
    obtain ⟨h1, h2⟩ := search_sound g.edges start _ start [] q heq
    cases q with
    | nil => simp at h1
    | cons a rest =>
      cases (Option.some.inj h1 : a = start)
      exact ⟨rest, (Option.some.inj h).symm, h2⟩
  next => cases h

/-- the path of a circular-dependency error is a closed walk of the dependency relation that
starts and ends at the reported node -/
theorem findCyclePath_sound (g : Graph) (start : Key) (p : List Key) (h : findCyclePath g start = some p) :
    isClosedWalk g.edges p = true ∧ p.head? = some start := by
  obtain ⟨rest, rfl, hw⟩ := findCyclePath_some h
  have : (start :: rest ++ [start]).getLast? = some start := List.getLast?_concat ..
  rw [isClosedWalk, this, hw]
  simp

theorem findCyclePath_reach {g : Graph} {start : Key} {p : List Key} (h : findCyclePath g start = some p) :
    Reach g.edges start start := by
  obtain ⟨rest, _, hw⟩ := findCyclePath_some h
  exact reach_of_isWalk g.edges rest start start hw

theorem detectCyclesFrom_never_fuel (g : Graph) (b : Base g) (s : Key) :
    (detectCyclesFrom g s).2 ≠ .fuel := by
  unfold detectCyclesFrom
  split
  · simp
  next hs =>
    have hs' : s ∈ g.nodes := by simpa using hs
    have := Dfs.detectFrom_no_fuel g.edges g.nodes b.nodesNodup b.targets s hs' (dfsFuel g)
      (by unfold dfsFuel edgeCount; omega)
    split
    · simp
    · simp
    next heq => exact absurd heq this

theorem detectCyclesFrom_cycle {g g' : Graph} {s k : Key} {path : Option (List Key)}
    (h : detectCyclesFrom g s = (g', .cycle k path)) :
    Dfs.detectFrom g.edges (dfsFuel g) s = .cycle k ∧ path = findCyclePath g k := by
  unfold detectCyclesFrom at h
  split at h
  · cases (Prod.mk.inj h).2
  · split at h
    · cases (Prod.mk.inj h).2
    next k' heq =>
      cases (Prod.mk.inj h).2
      exact ⟨heq, rfl⟩
    · cases (Prod.mk.inj h).2

theorem detectCyclesFrom_sound (g : Graph) (s k : Key) (path : Option (List Key)) (g' : Graph)
    (h : detectCyclesFrom g s = (g', .cycle k path)) :
    Reach g.edges k k ∧ ∀ p, path = some p → isClosedWalk g.edges p = true ∧ p.head? = some k := by
  obtain ⟨hd, rfl⟩ := detectCyclesFrom_cycle h
  exact ⟨Dfs.path_iff_reach.1 (Dfs.detectFrom_sound g.edges _ s k hd), findCyclePath_sound g k⟩

theorem detectCyclesFrom_complete (g : Graph) (s : Key) (hs : s ∈ g.nodes) (g' : Graph)
    (h : detectCyclesFrom g s = (g', .ok)) :
    ∀ c, Reach g.edges s c → ¬ Reach g.edges c c := by
  unfold detectCyclesFrom at h
  split at h
  next hn => exact absurd hs hn
  · split at h
    next out heq =>
      intro c hc hcc
      exact Dfs.detectFrom_complete g.edges _ s out heq c (Or.inr (Dfs.path_iff_reach.2 hc)) (Dfs.path_iff_reach.2 hcc)
    · simp at h
    · simp at h

theorem detectLoop_cycle {g g1 : Graph} {l : List Key} {k : Key} {path : Option (List Key)}
    (h : detectLoop g l = (g1, .cycle k path)) : ∃ s ∈ l, detectCyclesFrom g s = (g1, .cycle k path) := by
  rcases detectLoop_spec l g with ⟨h1, _⟩ | ⟨s, hs, h1, _⟩
  · rw [h1] at h; cases h
  · exact ⟨s, hs, h1 ▸ h⟩

theorem detectLoop_ok_iff_acyclic (g : Graph) (b : Base g) (norder : List Key) (hn : norder.Perm g.nodes) :
    (detectLoop g norder).2 = .ok ↔ ¬ HasCycle (abs g) := by
  rw [detectLoop_ok_iff]
  constructor
  · intro h ⟨k, hk, hr⟩
    exact detectCyclesFrom_complete g k hk _ (Prod.ext rfl (h k (hn.mem_iff.2 hk))) k hr hr
  · intro hac k _
    cases hdc : detectCyclesFrom g k with
    | mk g' r =>
      cases r with
      | ok => rfl
      | fuel => exact absurd (by rw [hdc]) (detectCyclesFrom_never_fuel g b k)
      | cycle k' path =>
        have hr := (detectCyclesFrom_sound g k k' path g' hdc).1
        exact absurd hr ((acyclic_iff b).2 hac k')

end Godi.Graph
