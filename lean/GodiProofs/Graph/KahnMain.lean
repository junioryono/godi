import GodiProofs.Graph.KahnInv
/-! Kahn's algorithm as in `TopologicalSort`: a successful sort is a dependencies-first permutation of the nodes and
certifies acyclicity; on an acyclic graph the sort succeeds, because a loop that ends with nodes left over leaves
a set in which every node has a dependency in the set. -/
namespace Godi.Kahn
open Godi.Spec (Reach)

theorem inv_len_le (v : View) {queue cnt res} (inv : Inv v queue cnt res) :
    res.length ≤ v.nodes.length := by
  have nd : res.Nodup := (List.nodup_append.1 inv.nd).1
  exact nd.length_le_of_subset (fun k hk => inv.sub k (by simp [hk]))

/-- every iteration emits a node, so `fuel + |res|` above the node count is never exhausted -/
theorem loop_spec (v : View) (wf : WF v) :
    ∀ fuel queue cnt res, Inv v queue cnt res → v.nodes.length + 1 ≤ fuel + res.length →
      ∃ out cnt', loop v fuel queue cnt res = .done out ∧ Inv v [] cnt' out := by
  intro fuel
  induction fuel with
  | zero =>
    intro queue cnt res inv h
    have := inv_len_le v inv
    omega
  | succ f ih =>
    intro queue cnt res inv h
    cases queue with
    | nil => exact ⟨res, cnt, by simp [loop], inv⟩
    | cons q qs =>
      have step := inv_step v wf q qs cnt res inv
      have := ih _ _ _ step (by simp; omega)
      simpa [loop] using this

theorem sort_spec (v : View) (wf : WF v) : ∃ out cnt', Inv v [] cnt' out ∧
    sort v = if out.length = v.nodes.length then some out else none := by
  obtain ⟨out, cnt', hloop, inv⟩ :=
    loop_spec v wf (v.nodes.length + 1) _ _ [] (inv_init v wf) (by simp)
  exact ⟨out, cnt', inv, by simp only [sort, hloop]⟩

/-- dependency-first order, stated on positions -/
def DepsFirst (v : View) (l : List Key) : Prop :=
  ∀ a ∈ l, ∀ d ∈ v.deps a, d ∈ l ∧ l.idxOf d < l.idxOf a

theorem closed_depsFirst_aux (v : View) : ∀ (r : List Key), r.Nodup → Dfs.Closed v.deps r → DepsFirst v r.reverse
  | [], _, _ => by intro a ha; simp at ha
  | q :: r, nd, h => by
    have ndr : r.Nodup := (List.nodup_cons.1 nd).2
    have hq : q ∉ r.reverse := by simpa using (List.nodup_cons.1 nd).1
    have ih' := closed_depsFirst_aux v r ndr h.2
    intro a ha d hd
    simp only [List.reverse_cons, List.mem_append, List.mem_singleton] at ha
    simp only [List.reverse_cons]
    rcases ha with ha | ha
    · have ⟨h1, h2⟩ := ih' a ha d hd
      refine ⟨by simp at h1; simp [h1], ?_⟩
      rw [List.idxOf_append, List.idxOf_append, if_pos h1, if_pos ha]
      exact h2
    · subst ha
      have hdl : d ∈ r.reverse := by simpa using h.1 d hd
      refine ⟨by simp at hdl; simp [hdl], ?_⟩
      rw [List.idxOf_append, List.idxOf_append, if_pos hdl, if_neg hq]
      have := List.idxOf_lt_length_of_mem hdl
      omega

theorem closed_depsFirst (v : View) (l : List Key) (nd : l.Nodup) (h : Dfs.Closed v.deps l.reverse) :
    DepsFirst v l := by
  have := closed_depsFirst_aux v l.reverse (nd.perm (List.reverse_perm l).symm) h
  simpa using this

theorem sort_some (v : View) (wf : WF v) (l : List Key) (h : sort v = some l) :
    l.Perm v.nodes ∧ l.Nodup ∧ Dfs.Closed v.deps l.reverse := by
  obtain ⟨out, cnt', inv, hs⟩ := sort_spec v wf
  rw [hs] at h
  split at h
  · rename_i hlen
    cases Option.some.inj h
    have nd : l.Nodup := by simpa using inv.nd
    have sub : l ⊆ v.nodes := fun k hk => inv.sub k (by simp [hk])
    have sup : v.nodes ⊆ l := Graph.subset_of_nodup_len nd sub (by omega)
    exact ⟨(List.perm_ext_iff_of_nodup nd wf.nodup).2 (fun a => ⟨fun h => sub h, fun h => sup h⟩), nd, inv.topo⟩
  · cases h

/-- Whatever the seed order, a successful sort is a permutation of the nodes with every dependency strictly
before its dependent. -/
theorem sort_sound (v : View) (wf : WF v) (l : List Key) (h : sort v = some l) :
    l.Perm v.nodes ∧ DepsFirst v l := by
  obtain ⟨hperm, nd, hc⟩ := sort_some v wf l h
  exact ⟨hperm, closed_depsFirst v l nd hc⟩

inductive Path (v : View) : Key → Key → Prop
  | single {a b} : b ∈ v.deps a → Path v a b
  | cons {a b c} : b ∈ v.deps a → Path v b c → Path v a c

def HasCycle (v : View) : Prop := ∃ k ∈ v.nodes, Path v k k

theorem path_iff_reach {v : View} {a b : Key} : Path v a b ↔ Reach v.deps a b := by
  constructor
  · intro p
    induction p with
    | single h => exact .single h
    | cons h _ ih => exact .cons h ih
  · intro p
    induction p with
    | single h => exact .single h
    | cons h _ ih => exact .cons h ih

theorem Path.trans {v : View} {a b c : Key} (p : Path v a b) (q : Path v b c) : Path v a c :=
  path_iff_reach.2 ((path_iff_reach.1 p).trans (path_iff_reach.1 q))

/-- A finite set of keys in which every member reaches a member contains a key that reaches itself: take a member
`a` out of the set; whoever reached a member through `a` goes on along `a`'s own path, which ends in the rest of
the set unless it comes back to `a`. -/
theorem exists_cycle_of_no_sink (v : View) : ∀ (N : List Key) (S : Key → Prop), (∀ k, S k → k ∈ N) →
    (∀ k, S k → ∃ d, Path v k d ∧ S d) → ∀ k0, S k0 → ∃ k, S k ∧ Path v k k
  | [], _, hsub, _, k0, h0 => nomatch hsub k0 h0
  | a :: N, S, hsub, hS, k0, h0 => by
    by_cases hsa : S a
    · obtain ⟨d', pd', sd'⟩ := hS a hsa
      by_cases hda : d' = a
      · exact ⟨a, hsa, hda ▸ pd'⟩
      · obtain ⟨k, hk, pk⟩ := exists_cycle_of_no_sink v N (fun k => S k ∧ k ≠ a)
          (fun k hk => (List.mem_cons.1 (hsub k hk.1)).resolve_left hk.2)
          (fun k hk => by
            obtain ⟨d, pd, sd⟩ := hS k hk.1
            by_cases hd : d = a
            · exact ⟨d', pd.trans (hd ▸ pd'), sd', hda⟩
            · exact ⟨d, pd, sd, hd⟩)
          d' ⟨sd', hda⟩
        exact ⟨k, hk.1, pk⟩
    · exact exists_cycle_of_no_sink v N S
        (fun k hk => (List.mem_cons.1 (hsub k hk)).resolve_left (fun e => hsa (e ▸ hk))) hS k0 h0

theorem cycle_of_no_sink (v : View) (S : Key → Prop) (hsub : ∀ k, S k → k ∈ v.nodes)
    (hS : ∀ k, S k → ∃ d ∈ v.deps k, S d) (k0 : Key) (h0 : S k0) : HasCycle v := by
  obtain ⟨k, hk, pk⟩ := exists_cycle_of_no_sink v v.nodes S hsub
    (fun k hk => (hS k hk).imp fun d hd => ⟨.single hd.1, hd.2⟩) k0 h0
  exact ⟨k, hsub k hk, pk⟩

/-- On an acyclic graph Kahn's algorithm succeeds for every seed order. -/
theorem sort_complete (v : View) (wf : WF v) (hac : ¬ HasCycle v) : ∃ l, sort v = some l := by
  obtain ⟨out, cnt', inv, hs⟩ := sort_spec v wf
  rw [hs]
  by_cases hlen : out.length = v.nodes.length
  · exact ⟨out, if_pos hlen⟩
  · exfalso
    apply hac
    have nd : out.Nodup := by simpa using inv.nd
    have sub : out ⊆ v.nodes := fun k hk => inv.sub k (by simp [hk])
    -- some node is missing from the output
    have hmiss : ¬ ∀ k ∈ v.nodes, k ∈ out :=
      fun sup => hlen (Nat.le_antisymm (nd.length_le_of_subset sub) (wf.nodup.length_le_of_subset sup))
    simp only [Classical.not_forall] at hmiss
    obtain ⟨k0, hk0, hk0'⟩ := hmiss
    -- and every missing node has a missing dependency: the loop ended with nothing ready
    refine cycle_of_no_sink v (fun k => k ∈ v.nodes ∧ k ∉ out) (fun k h => h.1) ?_ k0 ⟨hk0, hk0'⟩
    intro k ⟨hk, hk'⟩
    have : pending v out k ≠ 0 := fun h => hk' (by simpa using (inv.ready k hk).2 h)
    obtain ⟨d, hd, hd'⟩ := (pending_pos_iff v out k).1 (Nat.pos_of_ne_zero this)
    exact ⟨d, hd, wf.deps_closed k hk d hd, hd'⟩

theorem sort_some_acyclic (v : View) (wf : WF v) (l : List Key) (h : sort v = some l) : ¬ HasCycle v := by
  obtain ⟨hperm, _, hc⟩ := sort_some v wf l h
  intro ⟨k, hk, hp⟩
  exact Dfs.closed_acyclic v.deps _ hc k (List.mem_reverse.2 (hperm.mem_iff.2 hk)) (path_iff_reach.1 hp)

#print axioms sort_sound
#print axioms sort_complete
#print axioms sort_some_acyclic
end Godi.Kahn
