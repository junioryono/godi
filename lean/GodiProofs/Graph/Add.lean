import GodiProofs.Graph.CyclePath
/-! The immediate `AddProvider`: the state it hands to the cycle check is the digraph update, and an accepted add
returns it. The rejected add is in `Graph/AddRollback.lean`. -/
namespace Godi.Graph
open Godi.Kahn (Key)
open Godi.Spec

/-- graphs that agree on everything except the `Dependencies` field of node `k` -/
structure EqExc (X Y : Graph) (k : Key) : Prop where
  nodes : X.nodes = Y.nodes
  prov : X.prov = Y.prov
  ndeps : ∀ x, x ≠ k → X.ndeps x = Y.ndeps x
  ndependents : X.ndependents = Y.ndependents
  inDeg : X.inDeg = Y.inDeg
  outDeg : X.outDeg = Y.outDeg
  depth : X.depth = Y.depth
  ekeys : X.ekeys = Y.ekeys
  edges : X.edges = Y.edges
  sorted : X.sorted = Y.sorted
  sortedDirty : X.sortedDirty = Y.sortedDirty
  cycleTrue : X.cycleTrue = Y.cycleTrue
  cycleDirty : X.cycleDirty = Y.cycleDirty

theorem insertNode_eqExc (X Y : Graph) (k d : Key) (h : EqExc X Y k) (hk : k ∈ X.nodes) :
    EqExc (insertNode X d) (insertNode Y d) k := by
  unfold insertNode
  rw [← h.nodes]
  split
  · exact h
  next hd =>
    have hdk : d ≠ k := fun e => hd (e ▸ hk)
    refine ⟨by simp [h.nodes], by simp [h.prov], ?_, by simp [h.ndependents], by simp [h.inDeg], by simp [h.outDeg],
      by simp [h.depth], h.ekeys, h.edges, h.sorted, h.sortedDirty, h.cycleTrue, h.cycleDirty⟩
    intro x hx
    simp only []
    by_cases hxd : x = d
    · subst hxd; simp
    · simp [upd_ne _ _ hxd, h.ndeps x hx]

theorem ensureNodes_eqExc (k : Key) : ∀ (ds : List Key) (X Y : Graph), EqExc X Y k → k ∈ X.nodes →
    EqExc (ensureNodes X ds).1 (ensureNodes Y ds).1 k ∧ (ensureNodes X ds).2 = (ensureNodes Y ds).2 := by
  intro ds
  induction ds with
  | nil => intro X Y h _; exact ⟨h, rfl⟩
  | cons d rest ih =>
    intro X Y h hk
    unfold ensureNodes
    rw [← h.nodes]
    split
    · exact ih X Y h hk
    next hd =>
      have h1 := insertNode_eqExc X Y k d h hk
      have hk1 : k ∈ (insertNode X d).nodes := (insertNode_nodes_mem X d k).2 (Or.inl hk)
      obtain ⟨h2, h3⟩ := ih _ _ h1 hk1
      exact ⟨h2, by simp only [h3]⟩

theorem putEdges_eqExc (X Y : Graph) (k : Key) (ds : List Key) (h : EqExc X Y k) : putEdges X k ds = putEdges Y k ds := by
  have hn : upd X.ndeps k ds = upd Y.ndeps k ds := by
    funext x
    by_cases hx : x = k
    · subst hx; simp
    · simp [upd_ne _ _ hx, h.ndeps x hx]
  simp only [putEdges, setEdges, hn, h.nodes, h.prov, h.ndependents, h.inDeg, h.outDeg, h.depth, h.ekeys, h.edges,
    h.sorted, h.sortedDirty, h.cycleTrue, h.cycleDirty]

/-- the state `AddProvider` has built just before the cycle check, in terms of the primitives whose
invariants are already known -/
def added (g : Graph) (k : Key) (p : Nat) (deps : List Key) : Graph :=
  putEdges (ensureNodes (dropEdges (withNode g k p) k) deps).1 k deps

/-- the placeholder nodes `AddProvider` creates for `deps` -/
def createdBy (g : Graph) (k : Key) (p : Nat) (deps : List Key) : List Key :=
  (ensureNodes (dropEdges (withNode g k p) k) deps).2

/-- what `AddProvider` really computes (with `delEdges`, which leaves the `Dependencies` of `k` for the
later write) is `added` -/
theorem addProvider_built_eq (g : Graph) (k : Key) (p : Nat) (deps : List Key) :
    let g2 := delEdges { insertNode g k with prov := upd (insertNode g k).prov k (some p) } k
    setEdges { (ensureNodes g2 deps).1 with ndeps := upd (ensureNodes g2 deps).1.ndeps k deps } k deps = added g k p deps ∧
    (ensureNodes g2 deps).2 = createdBy g k p deps := by
  intro g2
  have he : EqExc g2 (dropEdges (withNode g k p) k) k := by
    refine ⟨rfl, rfl, ?_, rfl, rfl, rfl, rfl, rfl, rfl, rfl, rfl, rfl, rfl⟩
    intro x hx
    show (insertNode g k).ndeps x = upd (insertNode g k).ndeps k [] x
    rw [upd_ne _ _ hx]
  have hk2 : k ∈ g2.nodes := (insertNode_nodes_mem g k k).2 (Or.inr rfl)
  obtain ⟨h1, h2⟩ := ensureNodes_eqExc k deps _ _ he hk2
  exact ⟨putEdges_eqExc _ _ k deps h1, h2⟩

/-- `g'` is `g` after the adjacency list of `k` was replaced by `deps` and the missing nodes were created -/
structure Grown (g g' : Graph) (k : Key) (deps : List Key) : Prop where
  base : Base g'
  edges : g'.edges = upd g.edges k deps
  nodes : ∀ x, x ∈ g'.nodes ↔ x ∈ g.nodes ∨ x = k ∨ x ∈ deps
  ekeys : ∀ x, x ∈ g'.ekeys ↔ x ∈ g.ekeys ∨ x = k

theorem Grown.of_eq {g a a' : Graph} {k : Key} {deps : List Key} (h : Grown g a k deps) (b : Base a')
    (hn : a'.nodes = a.nodes) (he : a'.edges = a.edges) (hk : a'.ekeys = a.ekeys) : Grown g a' k deps :=
  ⟨b, he.trans h.edges, fun x => hn ▸ h.nodes x, fun x => hk ▸ h.ekeys x⟩

theorem added_grown (g : Graph) (b : Base g) (k : Key) (p : Nat) (deps : List Key) : Grown g (added g k p deps) k deps := by
  have b2 : Base (dropEdges (withNode g k p) k) := dropEdges_base _ _ (withNode_base g b k p)
  have hk2 : k ∈ (dropEdges (withNode g k p) k).nodes := (withNode_nodes_mem g k p k).2 (Or.inr rfl)
  obtain ⟨h1, h2, h3, h4⟩ := putEdges_ensureNodes _ b2 k hk2 deps
  refine ⟨h1, h2.trans ?_, fun x => (h3 x).trans ?_, fun x => ?_⟩
  · show upd (upd (withNode g k p).edges k []) k deps = _
    rw [withNode_edges, upd_upd]
  · show x ∈ (withNode g k p).nodes ∨ x ∈ deps ↔ _
    rw [withNode_nodes_mem, or_assoc]
  · -- the edge list of `k` was deleted first, so `k` is appended as a new key of the `edges` map
    have he : (dropEdges (withNode g k p) k).ekeys = g.ekeys.erase k := by
      show (withNode g k p).ekeys.erase k = _
      rw [withNode_ekeys]
    show x ∈ (putEdges _ k deps).ekeys ↔ _
    rw [h4, he, if_neg b.ekeysNodup.not_mem_erase, List.mem_append, List.mem_singleton, b.ekeysNodup.mem_erase_iff]
    by_cases hx : x = k <;> simp [hx]

theorem createdBy_mem (g : Graph) (k : Key) (p : Nat) (deps : List Key) (x : Key) :
    x ∈ createdBy g k p deps ↔ (x ∉ g.nodes ∧ x ≠ k) ∧ x ∈ deps := by
  obtain ⟨_, _, _, h5, _⟩ := ensureNodes_spec deps (dropEdges (withNode g k p) k)
  rw [createdBy, h5]
  show x ∉ (withNode g k p).nodes ∧ x ∈ deps ↔ _
  rw [withNode_nodes_mem, not_or]

/-- `AddProvider` in terms of `added`: the state handed to the cycle check, and the rollback -/
def checked (g : Graph) (k : Key) (p : Nat) (deps : List Key) : Graph :=
  { updateDegrees (added g k p deps) with sortedDirty := true, cycleDirty := true }

def rollback (g g6 : Graph) (k : Key) (created : List Key) : Graph :=
  let g1 := insertNode g k
  let g7 :=
    if decide (k ∈ g.nodes) then
      let g' := { g6 with prov := upd g6.prov k (g1.prov k), ndeps := upd g6.ndeps k (g1.ndeps k) }
      if decide (k ∈ g1.ekeys) then setEdges g' k (g1.edges k) else delEdges g' k
    else delEdges (delNode g6 k) k
  updateDegrees (created.foldl delNode g7)

theorem addProvider_eq (g : Graph) (k : Key) (p : Nat) (deps : List Key) :
    addProvider g k p deps =
      (match detectCyclesFrom (checked g k p deps) k with
       | (g6, .ok) => (g6, .ok)
       | (g6, r) => (rollback g g6 k (createdBy g k p deps), r)) := by
  obtain ⟨h4, hc⟩ := addProvider_built_eq g k p deps
  unfold addProvider
  simp only []
  rw [show (ensureNodes (delEdges { insertNode g k with prov := upd (insertNode g k).prov k (some p) } k) deps) =
    ((ensureNodes (delEdges { insertNode g k with prov := upd (insertNode g k).prov k (some p) } k) deps).1,
     (ensureNodes (delEdges { insertNode g k with prov := upd (insertNode g k).prov k (some p) } k) deps).2) from rfl]
  simp only [h4, hc]
  rfl

theorem checked_grown (g : Graph) (b : Base g) (k : Key) (p : Nat) (deps : List Key) :
    Grown g (checked g k p deps) k deps ∧ Synced (checked g k p deps) := by
  have h := added_grown g b k p deps
  exact ⟨h.of_eq (setFlags_base _ true true (updateDegreesWith_base _ _ h.base)) (updateDegreesWith_nodes ..)
      (updateDegreesWith_edges ..) (updateDegreesWith_ekeys ..),
    setFlags_synced _ true true (updateDegreesWith_synced _ _ (List.Perm.refl _) h.base)⟩

theorem checked_detect (g : Graph) (b : Base g) (k : Key) (p : Nat) (deps : List Key) :
    Grown g (detectCyclesFrom (checked g k p deps) k).1 k deps ∧ Synced (detectCyclesFrom (checked g k p deps) k).1 := by
  obtain ⟨hg, hs⟩ := checked_grown g b k p deps
  have h := detectCyclesFrom_same (checked g k p deps) k
  exact ⟨hg.of_eq (h.base hg.base) h.nodes h.edges h.ekeys, h.synced hs⟩

theorem addProvider_accepted (g : Graph) (b : Base g) (k : Key) (p : Nat) (deps : List Key)
    (h : (addProvider g k p deps).2 = .ok) :
    Base (addProvider g k p deps).1 ∧ Synced (addProvider g k p deps).1 ∧
    (addProvider g k p deps).1.edges = upd g.edges k deps ∧
    (∀ x, x ∈ (addProvider g k p deps).1.nodes ↔ x ∈ g.nodes ∨ x = k ∨ x ∈ deps) := by
  rw [addProvider_eq] at h ⊢
  obtain ⟨hg, hs⟩ := checked_detect g b k p deps
  generalize detectCyclesFrom (checked g k p deps) k = r at h hg hs ⊢
  obtain ⟨g6, res⟩ := r
  cases res with
  | ok => exact ⟨hg.base, hs, hg.edges, hg.nodes⟩
  | cycle n path => simp at h
  | fuel => simp at h

theorem reach_upd_split (E : Key → List Key) (k : Key) (ds : List Key) {a b : Key}
    (h : Reach (upd E k ds) a b) :
    Reach E a b ∨ ((a = k ∨ Reach (upd E k ds) a k) ∧ Reach (upd E k ds) k b) := by
  induction h with
  | @single a b hab =>
    by_cases hak : a = k
    · subst hak; exact Or.inr ⟨Or.inl rfl, .single hab⟩
    · rw [upd_ne _ _ hak] at hab; exact Or.inl (.single hab)
  | @cons a m c ham hmc ih =>
    by_cases hak : a = k
    · subst hak; exact Or.inr ⟨Or.inl rfl, .cons ham hmc⟩
    · have ham' : m ∈ E a := by rw [upd_ne _ _ hak] at ham; exact ham
      rcases ih with h | ⟨h1, h2⟩
      · exact Or.inl (.cons ham' h)
      · refine Or.inr ⟨Or.inr ?_, h2⟩
        rcases h1 with h1 | h1
        · subst h1; exact .single ham
        · exact .cons ham h1

theorem addProvider_ok_iff (g : Graph) (b : Base g) (k : Key) (p : Nat) (deps : List Key)
    (hacyc : Acyclic g) :
    (addProvider g k p deps).2 = .ok ↔ ∀ c, ¬ Reach (upd g.edges k deps) c c := by
  obtain ⟨⟨cb, ce, cn, _⟩, _⟩ := checked_grown g b k p deps
  have hk : k ∈ (checked g k p deps).nodes := (cn k).2 (Or.inr (Or.inl rfl))
  have hnf := detectCyclesFrom_never_fuel (checked g k p deps) cb k
  have hres : (addProvider g k p deps).2 = (detectCyclesFrom (checked g k p deps) k).2 := by
    rw [addProvider_eq]
    generalize detectCyclesFrom (checked g k p deps) k = r
    obtain ⟨g6, res⟩ := r
    cases res <;> rfl
  rw [hres]
  constructor
  · intro hok c hc
    have hc' := detectCyclesFrom_complete (checked g k p deps) k hk (detectCyclesFrom (checked g k p deps) k).1
      (by rw [← hok])
    rw [ce] at hc'
    rcases reach_upd_split g.edges k deps hc with h | ⟨h1, h2⟩
    · exact hacyc c h
    · have hkk : Reach (upd g.edges k deps) k k := by
        rcases h1 with h1 | h1
        · subst h1; exact h2
        · exact h2.trans h1
      exact hc' k hkk hkk
  · intro hno
    generalize hr : detectCyclesFrom (checked g k p deps) k = r at hnf ⊢
    obtain ⟨g6, res⟩ := r
    cases res with
    | ok => rfl
    | fuel => exact absurd rfl hnf
    | cycle n path =>
      have := (detectCyclesFrom_sound (checked g k p deps) k n path g6 hr).1
      rw [ce] at this
      exact absurd this (hno n)


end Godi.Graph
