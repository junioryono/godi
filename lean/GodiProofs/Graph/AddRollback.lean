import GodiProofs.Graph.Add
/-! Rejected `AddProvider`: the rollback restores the digraph. -/
namespace Godi.Graph
open Godi.Kahn (Key)

theorem foldl_delNode_fields (l : List Key) : ∀ (g : Graph),
    (l.foldl delNode g).edges = g.edges ∧ (l.foldl delNode g).ekeys = g.ekeys ∧ (l.foldl delNode g).ndeps = g.ndeps ∧
    (g.nodes.Nodup → (l.foldl delNode g).nodes.Nodup ∧ ∀ x, x ∈ (l.foldl delNode g).nodes ↔ x ∈ g.nodes ∧ x ∉ l) := by
  induction l with
  | nil => intro g; simp
  | cons a rest ih =>
    intro g
    simp only [List.foldl_cons]
    obtain ⟨h1, h2, h3, h4⟩ := ih (delNode g a)
    refine ⟨h1, h2, h3, ?_⟩
    intro hn
    obtain ⟨h5, h6⟩ := h4 (hn.erase a)
    refine ⟨h5, fun x => ?_⟩
    rw [h6 x]
    show x ∈ g.nodes.erase a ∧ x ∉ rest ↔ _
    rw [hn.mem_erase_iff]
    simp only [List.mem_cons, not_or]
    constructor
    · rintro ⟨⟨h1', h2'⟩, h3'⟩; exact ⟨h2', h1', h3'⟩
    · rintro ⟨h1', h2', h3'⟩; exact ⟨⟨h2', h1'⟩, h3'⟩

/-- what the first half of the rollback (everything but dropping the created placeholders) reaches -/
structure RolledTo (g g7 : Graph) (k : Key) (deps : List Key) : Prop where
  edges : g7.edges = g.edges
  ekeys : ∀ x, x ∈ g7.ekeys ↔ x ∈ g.ekeys
  ekeysNodup : g7.ekeys.Nodup
  nodesNodup : g7.nodes.Nodup
  nodes : ∀ x, x ∈ g7.nodes ↔ (x ∈ g.nodes ∨ (x ∈ deps ∧ x ≠ k))
  ndeps : ∀ x, x ∈ g.nodes → g7.ndeps x = g.edges x

section
variable {g g6 : Graph} {k : Key} {deps : List Key} (h6 : Grown g g6 k deps)
include h6

theorem Grown.ndeps {x : Key} (hx : x ∈ g.nodes) (hxk : x ≠ k) : g6.ndeps x = g.edges x := by
  rw [h6.base.deps x ((h6.nodes x).2 (Or.inl hx)), h6.edges, upd_ne _ _ hxk]

theorem Grown.ndeps_restored (b : Base g) {x : Key} (hx : x ∈ g.nodes) : upd g6.ndeps k (g.ndeps k) x = g.edges x := by
  by_cases hxk : x = k
  · subst hxk; rw [upd_self, b.deps x hx]
  · rw [upd_ne _ _ hxk]; exact h6.ndeps hx hxk

theorem Grown.nodes_of_mem (hex : k ∈ g.nodes) (x : Key) : x ∈ g6.nodes ↔ (x ∈ g.nodes ∨ (x ∈ deps ∧ x ≠ k)) := by
  rw [h6.nodes]
  by_cases hxk : x = k
  · subst hxk; simp [hex]
  · simp [hxk]

theorem Grown.mem_erase_ekeys (hhad : k ∉ g.ekeys) (x : Key) : x ∈ g6.ekeys.erase k ↔ x ∈ g.ekeys := by
  rw [h6.base.ekeysNodup.mem_erase_iff, h6.ekeys]
  by_cases hxk : x = k
  · subst hxk; simp [hhad]
  · simp [hxk]

/-- key existed with its own edge list: provider and edge list are put back -/
theorem rolledTo_hadEdges (b : Base g) (hex : k ∈ g.nodes) (hhad : k ∈ g.ekeys) (pv : Option Nat) :
    RolledTo g (setEdges { g6 with prov := upd g6.prov k pv, ndeps := upd g6.ndeps k (g.ndeps k) } k (g.edges k)) k deps := by
  have hk6 : k ∈ g6.ekeys := (h6.ekeys k).2 (Or.inr rfl)
  refine ⟨?_, ?_, ?_, h6.base.nodesNodup, h6.nodes_of_mem hex, fun x hx => h6.ndeps_restored b hx⟩
  · show upd g6.edges k (g.edges k) = g.edges
    rw [h6.edges]; exact upd_upd_self _ _ _
  · intro x
    show x ∈ (if k ∈ g6.ekeys then g6.ekeys else g6.ekeys ++ [k]) ↔ _
    rw [if_pos hk6, h6.ekeys]
    exact ⟨fun h => h.elim id (fun e => e ▸ hhad), Or.inl⟩
  · show (if k ∈ g6.ekeys then g6.ekeys else g6.ekeys ++ [k]).Nodup
    rw [if_pos hk6]; exact h6.base.ekeysNodup

/-- key existed as a placeholder only: its edge list is removed again -/
theorem rolledTo_placeholder (b : Base g) (hex : k ∈ g.nodes) (hhad : k ∉ g.ekeys) (pv : Option Nat) :
    RolledTo g (delEdges { g6 with prov := upd g6.prov k pv, ndeps := upd g6.ndeps k (g.ndeps k) } k) k deps := by
  refine ⟨?_, h6.mem_erase_ekeys hhad, h6.base.ekeysNodup.erase k, h6.base.nodesNodup,
    h6.nodes_of_mem hex, fun x hx => h6.ndeps_restored b hx⟩
  show upd g6.edges k [] = g.edges
  rw [h6.edges, ← b.offKeys k hhad]; exact upd_upd_self _ _ _

/-- key was new: node and edge list are removed -/
theorem rolledTo_new (b : Base g) (hex : k ∉ g.nodes) : RolledTo g (delEdges (delNode g6 k) k) k deps := by
  have hhad : k ∉ g.ekeys := fun h => hex (b.ekeysSub k h)
  refine ⟨?_, h6.mem_erase_ekeys hhad, h6.base.ekeysNodup.erase k, h6.base.nodesNodup.erase k, ?_,
    fun x hx => h6.ndeps hx (fun e => hex (e ▸ hx))⟩
  · show upd g6.edges k [] = g.edges
    rw [h6.edges, ← b.offKeys k hhad]; exact upd_upd_self _ _ _
  · intro x
    show x ∈ g6.nodes.erase k ↔ _
    rw [h6.base.nodesNodup.mem_erase_iff, h6.nodes]
    by_cases hxk : x = k
    · subst hxk; simp [hex]
    · simp [hxk]
end

/-- dropping the placeholders this add created and recomputing the derived fields -/
theorem rolled_finish (g g7 : Graph) (b : Base g) (k : Key) (deps created : List Key) (h7 : RolledTo g g7 k deps)
    (hc : ∀ x, x ∈ created ↔ (x ∉ g.nodes ∧ x ≠ k) ∧ x ∈ deps) :
    let r := updateDegrees (created.foldl delNode g7)
    Base r ∧ Synced r ∧ r.edges = g.edges ∧ (∀ x, x ∈ r.nodes ↔ x ∈ g.nodes) := by
  intro r
  obtain ⟨f1, f2, f3, f4⟩ := foldl_delNode_fields created g7
  obtain ⟨f5, f6⟩ := f4 h7.nodesNodup
  have hn8 : ∀ x, x ∈ (created.foldl delNode g7).nodes ↔ x ∈ g.nodes := by
    intro x
    rw [f6, h7.nodes, hc]
    by_cases hx : x ∈ g.nodes
    · simp [hx]
    · by_cases hxk : x = k <;> simp [hx, hxk]
  have b8 : Base (created.foldl delNode g7) := by
    refine ⟨f5, by rw [f2]; exact h7.ekeysNodup, ?_, ?_, ?_, ?_⟩
    · intro x hx; rw [f2, h7.ekeys] at hx; exact (hn8 x).2 (b.ekeysSub x hx)
    · intro x hx d hd; rw [f1, h7.edges] at hd; exact (hn8 d).2 (b.targets x ((hn8 x).1 hx) d hd)
    · intro x hx; rw [f2, h7.ekeys] at hx; rw [f1, h7.edges]; exact b.offKeys x hx
    · intro x hx; rw [f3, f1, h7.edges]; exact h7.ndeps x ((hn8 x).1 hx)
  refine ⟨updateDegreesWith_base _ _ b8, updateDegreesWith_synced _ _ (List.Perm.refl _) b8, ?_, ?_⟩
  · exact (updateDegreesWith_edges ..).trans (f1.trans h7.edges)
  · intro x
    show x ∈ (updateDegreesWith _ _).nodes ↔ _
    rw [updateDegreesWith_nodes]; exact hn8 x

/-- the rollback of a rejected add restores the digraph — same node set, same adjacency function — with
the structural invariant and all derived fields in sync -/
theorem rollback_spec (g : Graph) (b : Base g) (k : Key) (p : Nat) (deps : List Key) (g6 : Graph)
    (h6 : Grown g g6 k deps) :
    Base (rollback g g6 k (createdBy g k p deps)) ∧ Synced (rollback g g6 k (createdBy g k p deps)) ∧
    (rollback g g6 k (createdBy g k p deps)).edges = g.edges ∧
    (∀ x, x ∈ (rollback g g6 k (createdBy g k p deps)).nodes ↔ x ∈ g.nodes) := by
  have hc := createdBy_mem g k p deps
  unfold rollback
  by_cases hex : k ∈ g.nodes
  · have hins : insertNode g k = g := by unfold insertNode; simp [hex]
    simp only [hex, decide_true, if_true, hins]
    by_cases hhad : k ∈ g.ekeys
    · simp only [hhad, decide_true, if_true]
      exact rolled_finish g _ b k deps _ (rolledTo_hadEdges h6 b hex hhad _) hc
    · simp only [hhad, decide_false, Bool.false_eq_true, if_false]
      exact rolled_finish g _ b k deps _ (rolledTo_placeholder h6 b hex hhad _) hc
  · simp only [hex, decide_false, Bool.false_eq_true, if_false]
    exact rolled_finish g _ b k deps _ (rolledTo_new h6 b hex) hc

theorem addProvider_rejected (g : Graph) (b : Base g) (k : Key) (p : Nat) (deps : List Key)
    (h : (addProvider g k p deps).2 ≠ .ok) :
    Base (addProvider g k p deps).1 ∧ Synced (addProvider g k p deps).1 ∧
    (addProvider g k p deps).1.edges = g.edges ∧
    (∀ x, x ∈ (addProvider g k p deps).1.nodes ↔ x ∈ g.nodes) := by
  rw [addProvider_eq] at h ⊢
  have hg := (checked_detect g b k p deps).1
  generalize detectCyclesFrom (checked g k p deps) k = r at h hg ⊢
  obtain ⟨g6, res⟩ := r
  cases res with
  | ok => simp at h
  | cycle n path => exact rollback_spec g b k p deps g6 hg
  | fuel => exact rollback_spec g b k p deps g6 hg


end Godi.Graph
