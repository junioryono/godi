import GodiProofs.Graph.Dfs
/-!
Termination of the explicit-stack DFS of `detectCyclesFrom`: with the fuel the model supplies the
search never runs out of fuel — i.e. the unbounded `for len(stack) > 0` loop of the Go code
terminates on every graph. Potential: stack height + Σ over never-expanded nodes of (2 + out-degree).
-/
namespace Godi.Dfs
open Godi.Kahn (Key)

/-- weight of the nodes of `U` that were never expanded -/
def weightLeft (edges : Key → List Key) (seen : Key → Bool) : List Key → Nat
  | [] => 0
  | u :: us => (if seen u then 0 else 2 + (edges u).length) + weightLeft edges seen us

theorem weightLeft_mono (edges : Key → List Key) (seen seen' : Key → Bool) (U : List Key)
    (h : ∀ u ∈ U, seen u = true → seen' u = true) : weightLeft edges seen' U ≤ weightLeft edges seen U := by
  induction U with
  | nil => simp [weightLeft]
  | cons u us ih =>
    have ih' := ih (fun x hx => h x (List.mem_cons_of_mem _ hx))
    have hu := h u (by simp)
    simp only [weightLeft]
    cases hs : seen u <;> cases hs' : seen' u <;> simp_all <;> omega

theorem weightLeft_eq_sum (edges : Key → List Key) (seen : Key → Bool) (U : List Key) :
    weightLeft edges seen U = (U.map fun u => if seen u then 0 else 2 + (edges u).length).sum := by
  induction U with
  | nil => rfl
  | cons u us ih => simp only [weightLeft, ih, List.map_cons, List.sum_cons]

theorem weightLeft_mark (edges : Key → List Key) (seen seen' : Key → Bool) (k : Key) (U : List Key) (nd : U.Nodup)
    (hk : k ∈ U) (hs : seen k = false) (hs' : seen' k = true) (hother : ∀ u, u ≠ k → seen' u = seen u) :
    weightLeft edges seen' U + (2 + (edges k).length) = weightLeft edges seen U := by
  have := Godi.Graph.sum_map_change (fun u => if seen u then 0 else 2 + (edges u).length)
    (fun u => if seen' u then 0 else 2 + (edges u).length) k U nd hk fun y hy => by rw [hother y hy]
  simp only [hs, hs', if_true, Bool.false_eq_true, if_false] at this
  rw [weightLeft_eq_sum, weightLeft_eq_sum]
  omega

theorem push_length_le (edges : Key → List Key) (visited : List Key) (k : Key) :
    (push edges visited k).length ≤ (edges k).length := by
  simp only [push, List.length_map, List.length_reverse]
  exact List.length_filter_le _ _

def expandedOnce (visiting visited : List Key) : Key → Bool := fun u => decide (u ∈ visiting) || decide (u ∈ visited)

/-- the potential strictly decreases, hence fuel above it is never exhausted -/
theorem dfs_no_fuel (edges : Key → List Key) (U : List Key) (nd : U.Nodup)
    (closed : ∀ u ∈ U, ∀ d ∈ edges u, d ∈ U) :
    ∀ fuel st visiting visited, (∀ it ∈ st, it.key ∈ U) →
      st.length + weightLeft edges (expandedOnce visiting visited) U < fuel →
      dfs edges fuel st visiting visited ≠ .fuel := by
  intro fuel
  induction fuel with
  | zero => intro st visiting visited _ h; omega
  | succ f ih =>
    intro st visiting visited hst hlt
    match st with
    | [] => simp [dfs]
    | ⟨k, false⟩ :: st =>
      -- backtracking: the marker is popped, `k` moves from `visiting` to `visited`
      rw [dfs_pop]
      apply ih _ _ _ (fun i hi => hst i (List.mem_cons_of_mem _ hi))
      have := weightLeft_mono edges (expandedOnce visiting visited) (expandedOnce (visiting.erase k) (k :: visited)) U
        (fun u _ hu => by
          simp only [expandedOnce, Bool.or_eq_true, decide_eq_true_eq, List.mem_cons] at hu ⊢
          by_cases huk : u = k
          · exact Or.inr (Or.inl huk)
          · exact hu.imp (List.mem_erase_of_ne huk).2 Or.inr)
      simp only [List.length_cons] at hlt
      omega
    | ⟨k, true⟩ :: st =>
      have hkU : k ∈ U := hst _ (List.mem_cons_self ..)
      have hstU : ∀ i ∈ st, i.key ∈ U := fun i hi => hst i (List.mem_cons_of_mem _ hi)
      simp only [List.length_cons] at hlt
      by_cases h1 : k ∈ visiting
      · rw [dfs_cycle edges f st visited h1]; simp
      · by_cases h2 : k ∈ visited
        · rw [dfs_skip edges f st h1 h2]
          exact ih _ _ _ hstU (by omega)
        · -- expanding `k` pushes at most its out-degree and removes its weight from the potential
          rw [dfs_expand edges f st h1 h2]
          apply ih
          · intro i hi
            rcases List.mem_append.1 hi with hi | hi
            · exact closed k hkU _ (push_spec edges visited k i hi).2.1
            · rcases List.mem_cons.1 hi with rfl | hi
              · exact hkU
              · exact hstU i hi
          · have hm := weightLeft_mark edges (expandedOnce visiting visited) (expandedOnce (k :: visiting) visited) k U nd hkU
              (by simp [expandedOnce, h1, h2]) (by simp [expandedOnce])
              (by intro u hu; simp [expandedOnce, hu])
            have hp := push_length_le edges visited k
            simp only [List.length_append, List.length_cons]
            omega

theorem weightLeft_none (edges : Key → List Key) (U : List Key) :
    weightLeft edges (fun _ => false) U = 2 * U.length + (U.map (fun k => (edges k).length)).sum := by
  induction U with
  | nil => simp [weightLeft]
  | cons u us ih => simp [weightLeft, ih]; omega

/-- fuel above the potential of the start state, `1 + Σ (2 + out-degree) = 2·|V| + |E| + 1`, is never exhausted;
the model's `dfsFuel = 2·|E| + 2·|V| + 4` is above it -/
theorem detectFrom_no_fuel (edges : Key → List Key) (U : List Key) (nd : U.Nodup)
    (closed : ∀ u ∈ U, ∀ d ∈ edges u, d ∈ U) (s : Key) (hs : s ∈ U) (fuel : Nat)
    (hf : 2 * U.length + (U.map (fun k => (edges k).length)).sum + 1 < fuel) :
    detectFrom edges fuel s ≠ .fuel := by
  unfold detectFrom
  apply dfs_no_fuel edges U nd closed
  · intro it hit; simp at hit; subst hit; exact hs
  · have : expandedOnce [] [] = fun _ => false := by funext u; simp [expandedOnce]
    rw [this, weightLeft_none]
    simp
    omega

end Godi.Dfs
