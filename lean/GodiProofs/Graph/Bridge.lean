import GodiProofs.Graph.Inv
/-! `abs g`, the graph state read as the specification's plain digraph: walks stay inside the node list, and the
view Kahn's algorithm runs on has a cycle exactly when `abs g` has one. -/
namespace Godi.Graph
open Godi.Kahn (Key)
open Godi.Spec

def abs (g : Graph) : Digraph := ⟨g.nodes, g.edges⟩

theorem reach_mem_nodes {g : Graph} (b : Base g) {a c : Key} (p : Reach g.edges a c) (ha : a ∈ g.nodes) :
    c ∈ g.nodes :=
  p.closed b.targets ha

theorem reach_src_mem_nodes {g : Graph} (b : Base g) {a c : Key} (p : Reach g.edges a c) : a ∈ g.nodes :=
  Classical.byContradiction fun ha => p.src_ne_nil (b.edges_of_not_mem ha)

def Acyclic (g : Graph) : Prop := ∀ k, ¬ Reach g.edges k k

/-- the three spellings of acyclicity: `Acyclic g` unfolds to `∀ c, ¬ Reach g.edges c c`, and since only nodes have
edges it says that the plain digraph has no cycle -/
theorem acyclic_iff {g : Graph} (b : Base g) : Acyclic g ↔ ¬ HasCycle (abs g) :=
  ⟨fun h ⟨k, _, hr⟩ => h k hr, fun h k hr => h ⟨k, reach_src_mem_nodes b hr, hr⟩⟩

theorem reach_ndeps_iff {g : Graph} (b : Base g) {a c : Key} (ha : a ∈ g.nodes) :
    Reach g.ndeps a c ↔ Reach g.edges a c :=
  ⟨fun r => r.congr_on (fun x hx y hy => b.targets x hx y (b.deps x hx ▸ hy)) (fun x hx => (b.deps x hx).symm) ha,
   fun r => r.congr_on b.targets (fun x hx => b.deps x hx) ha⟩

theorem kahn_hasCycle_iff {g : Graph} (b : Base g) (norder : List Key) (hp : norder.Perm g.nodes) :
    Kahn.HasCycle (kahnView g norder) ↔ HasCycle (abs g) := by
  constructor
  · rintro ⟨k, hk, p⟩
    have hk' : k ∈ g.nodes := hp.mem_iff.1 hk
    exact ⟨k, hk', (reach_ndeps_iff b hk').1 (Kahn.path_iff_reach.1 p)⟩
  · rintro ⟨k, hk, p⟩
    exact ⟨k, hp.mem_iff.2 hk, Kahn.path_iff_reach.2 ((reach_ndeps_iff b hk).2 p)⟩

end Godi.Graph
