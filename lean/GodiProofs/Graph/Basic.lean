import GodiModel.Graph
import GodiModel.Spec.Digraph
/-! Facts about the specification's `Reach` and about `upd` that the graph proofs share. -/
namespace Godi.Spec
open Godi.Kahn (Key)
variable {E E' : Key → List Key} {a b c : Key}

theorem Reach.snoc (h : Reach E a b) (hc : c ∈ E b) : Reach E a c := by
  induction h with
  | single h1 => exact .cons h1 (.single hc)
  | cons h1 _ ih => exact .cons h1 (ih hc)

theorem Reach.trans (h1 : Reach E a b) (h2 : Reach E b c) : Reach E a c := by
  induction h1 with
  | single h => exact .cons h h2
  | cons h _ ih => exact .cons h (ih h2)

theorem Reach.mono (h : ∀ x y, y ∈ E x → y ∈ E' x) (r : Reach E a c) : Reach E' a c := by
  induction r with
  | single h1 => exact .single (h _ _ h1)
  | cons h1 _ ih => exact .cons (h _ _ h1) ih

theorem Reach.targets {T : Key → Prop} (r : Reach E a c) (h0 : ∀ y ∈ E a, T y)
    (hT : ∀ x, T x → ∀ y ∈ E x, T y) : T c := by
  induction r with
  | single h => exact h0 _ h
  | cons h _ ih => exact ih (hT _ (h0 _ h))

theorem Reach.closed {S : Key → Prop} (r : Reach E a c) (hS : ∀ x, S x → ∀ y ∈ E x, S y) (ha : S a) : S c :=
  r.targets (hS a ha) hS

theorem Reach.congr_on {S : Key → Prop} (r : Reach E a c) (hS : ∀ x, S x → ∀ y ∈ E x, S y)
    (hE : ∀ x, S x → E' x = E x) (ha : S a) : Reach E' a c := by
  induction r with
  | single h => exact .single (hE _ ha ▸ h)
  | cons h _ ih => exact .cons (hE _ ha ▸ h) (ih (hS _ ha _ h))

theorem Reach.src_ne_nil (r : Reach E a c) : E a ≠ [] := by
  cases r with
  | single h => exact List.ne_nil_of_mem h
  | cons h _ => exact List.ne_nil_of_mem h

end Godi.Spec

namespace Godi.Dfs
open Godi.Kahn (Key)
open Godi.Spec (Reach)

/-- newest-first list in which every element's out-neighbours occur further down -/
def Closed (edges : Key → List Key) : List Key → Prop
  | [] => True
  | k :: older => (∀ d ∈ edges k, d ∈ older) ∧ Closed edges older

theorem closed_edge (edges) : ∀ (l : List Key), Closed edges l → ∀ a ∈ l, ∀ d ∈ edges a, d ∈ l
  | k :: older, h, a, ha, d, hd => by
    rcases List.mem_cons.1 ha with rfl | ha
    · exact List.mem_cons_of_mem _ (h.1 d hd)
    · exact List.mem_cons_of_mem _ (closed_edge edges older h.2 a ha d hd)

theorem closed_acyclic (edges) : ∀ (l : List Key), Closed edges l → ∀ a ∈ l, ¬ Reach edges a a
  | k :: older, h, a, ha, p => by
    by_cases hao : a ∈ older
    · exact closed_acyclic edges older h.2 a hao p
    · cases (List.mem_cons.1 ha).resolve_right hao
      -- the first edge lands in `older`, which is closed, so the walk can never come back to `a`
      exact hao (p.targets h.1 (closed_edge edges older h.2))

end Godi.Dfs

namespace Godi.Graph
open Godi.Kahn (Key)

theorem subset_of_nodup_len {l n : List Key} (hl : l.Nodup) (hsub : l ⊆ n)
    (hlen : n.length ≤ l.length) : n ⊆ l := by
  intro x hx
  apply Classical.byContradiction
  intro hxl
  have h1 : l ⊆ n.erase x := by
    intro y hy
    have : y ≠ x := fun h => hxl (h ▸ hy)
    exact (List.mem_erase_of_ne this).2 (hsub hy)
  have h2 := hl.length_le_of_subset h1
  have h3 : (n.erase x).length = n.length - 1 := by rw [List.length_erase]; simp [hx]
  have h4 : 1 ≤ n.length := List.length_pos_of_mem hx
  omega

theorem filter_ne_eq_self (l : List Key) (k : Key) (h : k ∉ l) : l.filter (· ≠ k) = l := by
  apply List.filter_eq_self.2
  intro a ha
  simp only [ne_eq, decide_eq_true_eq]
  intro e; subst e; exact h ha

theorem sum_map_change {α} (F F' : α → Nat) (d : α) : ∀ (N : List α), N.Nodup → d ∈ N → (∀ y, y ≠ d → F' y = F y) →
    (N.map F').sum + F d = (N.map F).sum + F' d
  | x :: rest, hn, hd, h => by
    rw [List.nodup_cons] at hn
    simp only [List.map_cons, List.sum_cons]
    by_cases hx : x = d
    · subst hx
      have e : rest.map F' = rest.map F := List.map_congr_left fun y hy => h y fun e => hn.1 (e ▸ hy)
      rw [e]; omega
    · have := sum_map_change F F' d rest hn.2 ((List.mem_cons.1 hd).resolve_left (Ne.symm hx)) h
      rw [h x hx]; omega

theorem nodup_snoc {l : List Key} {k : Key} (h : l.Nodup) (hk : k ∉ l) : (l ++ [k]).Nodup :=
  (List.perm_append_singleton k l).nodup_iff.2 (List.nodup_cons.2 ⟨hk, h⟩)

/-! The two recursive walks of graph.go (`search`, `collect`) thread a visited list; what a call leaves behind is
"every node marked between `vis` and `vis2` has all its successors in `Q`", with `Q` speaking of `vis2`. The next
two lemmas are how such facts compose: one call after another, and a node after the list of its successors. -/

theorem swept_trans {E : Key → List Key} {Q1 Q2 : Key → Prop} {v0 v1 v2 : List Key}
    (c01 : ∀ x ∈ v1, x ∉ v0 → ∀ y ∈ E x, Q1 y) (hQ : ∀ y, Q1 y → Q2 y)
    (c12 : ∀ x ∈ v2, x ∉ v1 → ∀ y ∈ E x, Q2 y) : ∀ x ∈ v2, x ∉ v0 → ∀ y ∈ E x, Q2 y := by
  intro x hx hn y hy
  by_cases h1 : x ∈ v1
  · exact hQ y (c01 x h1 hn y hy)
  · exact c12 x hx h1 y hy

theorem swept_node {E : Key → List Key} {Q : Key → Prop} {n : Key} {vis v : List Key}
    (c : ∀ x ∈ v, x ∉ n :: vis → ∀ y ∈ E x, Q y) (hn : ∀ y ∈ E n, Q y) : ∀ x ∈ v, x ∉ vis → ∀ y ∈ E x, Q y := by
  intro x hx hxv y hy
  by_cases hxn : x = n
  · subst hxn; exact hn y hy
  · exact c x hx (fun h => (List.mem_cons.1 h).elim hxn hxv) y hy

/-! The fuel of both walks: every nested call marks a member of `U` that was not marked before. -/

def unv (U vis : List Key) : Nat := U.countP (fun x => decide (x ∉ vis))

theorem unv_mono (U : List Key) {vis vis2 : List Key} (h : ∀ x ∈ vis, x ∈ vis2) : unv U vis2 ≤ unv U vis :=
  List.countP_mono_left fun x _ hx => by
    simp only [decide_eq_true_eq] at hx ⊢
    exact fun hv => hx (h x hv)

theorem unv_lt (U : List Key) {vis : List Key} {cur : Key} (hc : cur ∈ U) (hv : cur ∉ vis) :
    unv U (cur :: vis) < unv U vis := by
  -- `cur` itself is counted on the right only; before and after it the count does not grow
  obtain ⟨s, t, rfl⟩ := List.append_of_mem hc
  have hs := unv_mono s (vis := vis) (vis2 := cur :: vis) (fun x hx => List.mem_cons_of_mem _ hx)
  have ht := unv_mono t (vis := vis) (vis2 := cur :: vis) (fun x hx => List.mem_cons_of_mem _ hx)
  simp only [unv, List.countP_append, List.countP_cons, List.mem_cons, true_or, not_true_eq_false, decide_false,
    hv, not_false_eq_true, decide_true, Bool.false_eq_true, ↓reduceIte] at hs ht ⊢
  omega

theorem unv_nil_le (U : List Key) : unv U [] ≤ U.length := List.countP_le_length

theorem upd_upd {α} (f : Key → α) (k : Key) (v w : α) : upd (upd f k v) k w = upd f k w := by
  funext x; by_cases hx : x = k <;> simp [upd, hx]

theorem upd_upd_self {α} (f : Key → α) (k : Key) (v : α) : upd (upd f k v) k (f k) = f := by
  funext x; by_cases hx : x = k <;> simp [upd, hx]

end Godi.Graph
