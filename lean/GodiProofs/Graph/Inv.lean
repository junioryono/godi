import GodiProofs.Graph.Basic
import GodiProofs.Graph.KahnMain
/-!
Structural invariant `Base` of the M1 graph state and the fact that `updateDegrees` (for every
iteration order of `g.edges`) establishes `Synced`: the per-node `Dependents`/degree fields agree
with the adjacency lists. `Base ∧ Synced` gives the well-formedness (`Kahn.WF`) that the proof of
Kahn's algorithm needs (`kahn_wf`).
-/
namespace Godi.Graph
open Godi.Kahn (Key)

structure Base (g : Graph) : Prop where
  nodesNodup : g.nodes.Nodup
  ekeysNodup : g.ekeys.Nodup
  ekeysSub : ∀ k ∈ g.ekeys, k ∈ g.nodes
  targets : ∀ k ∈ g.nodes, ∀ d ∈ g.edges k, d ∈ g.nodes
  -- a key that is not in the Go map `g.edges` reads as the nil slice
  offKeys : ∀ k, k ∉ g.ekeys → g.edges k = []
  -- `node.Dependencies` and `g.edges[key]` are always written together (graph.go AddProvider, RemoveProvider)
  deps : ∀ k ∈ g.nodes, g.ndeps k = g.edges k

structure Synced (g : Graph) : Prop where
  depnSub : ∀ q ∈ g.nodes, ∀ k ∈ g.ndependents q, k ∈ g.nodes
  cons : ∀ q ∈ g.nodes, ∀ k ∈ g.nodes, (g.ndependents q).count k = (g.edges k).count q
  inDeg : ∀ q ∈ g.nodes, g.inDeg q = (g.ndependents q).length
  outDeg : ∀ k ∈ g.nodes, g.outDeg k = (g.edges k).length

theorem Synced.mem_dependents_iff {g : Graph} (s : Synced g) {q k : Key} (hq : q ∈ g.nodes) (hk : k ∈ g.nodes) :
    k ∈ g.ndependents q ↔ q ∈ g.edges k := by
  rw [← List.count_pos_iff, s.cons q hq k hk, List.count_pos_iff]

theorem Base.edges_of_not_mem {g : Graph} (b : Base g) {x : Key} (h : x ∉ g.nodes) : g.edges x = [] :=
  b.offKeys x fun he => h (b.ekeysSub x he)

theorem Base.of_eq {g g' : Graph} (b : Base g) (hn : g'.nodes = g.nodes) (hk : g'.ekeys = g.ekeys)
    (he : g'.edges = g.edges) (hd : ∀ k ∈ g.nodes, g'.ndeps k = g.ndeps k) : Base g' := by
  refine ⟨hn ▸ b.nodesNodup, hk ▸ b.ekeysNodup, ?_, ?_, ?_, ?_⟩
  · rw [hn, hk]; exact b.ekeysSub
  · rw [hn, he]; exact b.targets
  · rw [he, hk]; exact b.offKeys
  · intro k hk'; rw [hn] at hk'; rw [he, hd k hk']; exact b.deps k hk'

theorem Synced.of_eq {g g' : Graph} (s : Synced g) (hn : g'.nodes = g.nodes) (he : g'.edges = g.edges)
    (hd : g'.ndependents = g.ndependents) (hi : g'.inDeg = g.inDeg) (ho : g'.outDeg = g.outDeg) : Synced g' := by
  refine ⟨?_, ?_, ?_, ?_⟩
  · rw [hn, hd]; exact s.depnSub
  · rw [hn, he, hd]; exact s.cons
  · rw [hn, hd, hi]; exact s.inDeg
  · rw [hn, he, ho]; exact s.outDeg

theorem bumpTargets_eq (f : Key) (tos : List Key) : ∀ g : Graph,
    ∃ i d, bumpTargets f g tos = { g with inDeg := i, ndependents := d } := by
  induction tos with
  | nil => intro g; exact ⟨g.inDeg, g.ndependents, rfl⟩
  | cons t rest ih =>
    intro g
    unfold bumpTargets
    split
    · obtain ⟨i, d, h⟩ := ih { g with inDeg := upd g.inDeg t (g.inDeg t + 1),
                                      ndependents := upd g.ndependents t (g.ndependents t ++ [f]) }
      exact ⟨i, d, h⟩
    · exact ih g

theorem bumpTargets_fields (f : Key) (tos : List Key) : ∀ (g : Graph) (q : Key),
    (bumpTargets f g tos).ndependents q =
      g.ndependents q ++ List.replicate (if q ∈ g.nodes then tos.count q else 0) f ∧
    (bumpTargets f g tos).inDeg q = g.inDeg q + (if q ∈ g.nodes then tos.count q else 0) := by
  induction tos with
  | nil => intro g q; simp [bumpTargets]
  | cons t rest ih =>
    intro g q
    unfold bumpTargets
    split
    next ht =>
      rw [(ih _ q).1, (ih _ q).2]
      by_cases hq : q = t
      · subst hq
        simp [ht, List.replicate_succ, List.append_assoc]; omega
      · have : t ≠ q := Ne.symm hq
        simp [hq, this]
    next ht =>
      rw [(ih g q).1, (ih g q).2]
      by_cases hq : q = t
      · subst hq; simp [ht]
      · have : t ≠ q := Ne.symm hq
        simp [this]

/-- one iteration of the outer loop of `updateDegrees` for a key that has a node -/
def degStep (g : Graph) (f : Key) : Graph :=
  bumpTargets f { g with outDeg := upd g.outDeg f (g.edges f).length, ndeps := upd g.ndeps f (g.edges f) } (g.edges f)

theorem degLoop_cons (g : Graph) (f : Key) (rest : List Key) :
    degLoop g (f :: rest) = if f ∈ g.nodes then degLoop (degStep g f) rest else degLoop g rest := by
  simp [degLoop, degStep]

theorem degStep_eq (g : Graph) (f : Key) : ∃ i d, degStep g f =
    { g with outDeg := upd g.outDeg f (g.edges f).length, ndeps := upd g.ndeps f (g.edges f),
             inDeg := i, ndependents := d } :=
  bumpTargets_eq f _ _

@[simp] theorem degStep_nodes (g : Graph) (f : Key) : (degStep g f).nodes = g.nodes := by
  obtain ⟨_, _, h⟩ := degStep_eq g f; rw [h]
@[simp] theorem degStep_edges (g : Graph) (f : Key) : (degStep g f).edges = g.edges := by
  obtain ⟨_, _, h⟩ := degStep_eq g f; rw [h]
theorem degStep_ndeps (g : Graph) (f : Key) : (degStep g f).ndeps = upd g.ndeps f (g.edges f) := by
  obtain ⟨_, _, h⟩ := degStep_eq g f; rw [h]
theorem degStep_outDeg (g : Graph) (f : Key) : (degStep g f).outDeg = upd g.outDeg f (g.edges f).length := by
  obtain ⟨_, _, h⟩ := degStep_eq g f; rw [h]
theorem degStep_dependents (g : Graph) (f q : Key) :
    (degStep g f).ndependents q =
      g.ndependents q ++ List.replicate (if q ∈ g.nodes then (g.edges f).count q else 0) f :=
  (bumpTargets_fields f _ _ q).1
theorem degStep_inDeg (g : Graph) (f q : Key) :
    (degStep g f).inDeg q = g.inDeg q + (if q ∈ g.nodes then (g.edges f).count q else 0) :=
  (bumpTargets_fields f _ _ q).2

theorem degLoop_eq (order : List Key) : ∀ g : Graph,
    ∃ i o d n, degLoop g order = { g with inDeg := i, outDeg := o, ndependents := d, ndeps := n } := by
  induction order with
  | nil => intro g; exact ⟨g.inDeg, g.outDeg, g.ndependents, g.ndeps, rfl⟩
  | cons f rest ih =>
    intro g
    rw [degLoop_cons]
    split
    · obtain ⟨i, o, d, n, h⟩ := ih (degStep g f)
      obtain ⟨_, _, hs⟩ := degStep_eq g f
      exact ⟨i, o, d, n, h.trans (by rw [hs])⟩
    · exact ih g

/-- count form of the `Dependents` lists built by the second loop of `updateDegrees` -/
theorem degLoop_count (order : List Key) : ∀ (g : Graph) (q k : Key),
    ((degLoop g order).ndependents q).count k =
      (g.ndependents q).count k +
        (if q ∈ g.nodes ∧ k ∈ g.nodes then order.count k * (g.edges k).count q else 0) := by
  induction order with
  | nil => intro g q k; simp [degLoop]
  | cons f rest ih =>
    intro g q k
    -- only the iteration for `f = k` appends copies of `k`, and only if `k` has a node
    have hne : k ≠ f → (f == k) = false := fun h => by simp [Ne.symm h]
    rw [degLoop_cons]
    split
    next hf =>
      rw [ih, degStep_nodes, degStep_edges, degStep_dependents, List.count_append, List.count_replicate]
      by_cases hkf : k = f
      · subst hkf
        by_cases hq : q ∈ g.nodes <;> simp [hq, hf, Nat.add_mul]
        omega
      · simp [List.count_cons, hne hkf]
    next hf =>
      rw [ih]
      by_cases hkf : k = f
      · subst hkf; simp [hf]
      · simp [List.count_cons, hne hkf]

theorem degLoop_inDeg (order : List Key) : ∀ (g : Graph),
    (∀ q, g.inDeg q = (g.ndependents q).length) →
    ∀ q, (degLoop g order).inDeg q = ((degLoop g order).ndependents q).length := by
  induction order with
  | nil => intro g h q; simpa [degLoop] using h q
  | cons f rest ih =>
    intro g h q
    rw [degLoop_cons]
    split
    · apply ih
      intro q'
      rw [degStep_inDeg, degStep_dependents]
      simp [h q']
    · exact ih g h q

theorem degLoop_ndeps_outDeg (order : List Key) : ∀ (g : Graph) (k : Key),
    (degLoop g order).ndeps k = (if k ∈ order ∧ k ∈ g.nodes then g.edges k else g.ndeps k) ∧
    (degLoop g order).outDeg k = (if k ∈ order ∧ k ∈ g.nodes then (g.edges k).length else g.outDeg k) := by
  induction order with
  | nil => intro g k; simp [degLoop]
  | cons f rest ih =>
    intro g k
    rw [degLoop_cons]
    split
    next hf =>
      rw [(ih _ k).1, (ih _ k).2, degStep_nodes, degStep_edges, degStep_ndeps, degStep_outDeg]
      by_cases hkf : k = f
      · subst hkf; simp [hf]
      · simp [hkf]
    next hf =>
      rw [(ih g k).1, (ih g k).2]
      by_cases hkf : k = f
      · subst hkf; simp [hf]
      · simp [hkf]

theorem updateDegreesWith_eq (g : Graph) (eorder : List Key) :
    ∃ i o d n, updateDegreesWith g eorder = { g with inDeg := i, outDeg := o, ndependents := d, ndeps := n } :=
  degLoop_eq eorder _

@[simp] theorem updateDegreesWith_nodes (g : Graph) (eorder : List Key) : (updateDegreesWith g eorder).nodes = g.nodes := by
  obtain ⟨_, _, _, _, h⟩ := updateDegreesWith_eq g eorder; rw [h]
@[simp] theorem updateDegreesWith_edges (g : Graph) (eorder : List Key) : (updateDegreesWith g eorder).edges = g.edges := by
  obtain ⟨_, _, _, _, h⟩ := updateDegreesWith_eq g eorder; rw [h]
@[simp] theorem updateDegreesWith_ekeys (g : Graph) (eorder : List Key) : (updateDegreesWith g eorder).ekeys = g.ekeys := by
  obtain ⟨_, _, _, _, h⟩ := updateDegreesWith_eq g eorder; rw [h]
@[simp] theorem updateDegreesWith_sortedDirty (g : Graph) (eorder : List Key) :
    (updateDegreesWith g eorder).sortedDirty = g.sortedDirty := by
  obtain ⟨_, _, _, _, h⟩ := updateDegreesWith_eq g eorder; rw [h]
@[simp] theorem updateDegreesWith_cycleDirty (g : Graph) (eorder : List Key) :
    (updateDegreesWith g eorder).cycleDirty = g.cycleDirty := by
  obtain ⟨_, _, _, _, h⟩ := updateDegreesWith_eq g eorder; rw [h]

theorem updateDegreesWith_base (g : Graph) (eorder : List Key) (b : Base g) : Base (updateDegreesWith g eorder) := by
  refine b.of_eq (by simp) (by simp) (by simp) ?_
  intro k hk
  unfold updateDegreesWith
  rw [(degLoop_ndeps_outDeg eorder _ k).1]
  split
  · exact (b.deps k hk).symm
  · rfl

/-- `updateDegrees`, for every iteration order of the `edges` map, makes the per-node fields agree
with the adjacency lists. -/
theorem updateDegreesWith_synced (g : Graph) (eorder : List Key) (hp : eorder.Perm g.ekeys) (b : Base g) :
    Synced (updateDegreesWith g eorder) := by
  have hnd : eorder.Nodup := (List.Perm.nodup_iff hp).mpr b.ekeysNodup
  -- the `Dependents` lists start empty, so they hold each `k` once per occurrence of `q` in `k`'s list
  have hcount : ∀ q ∈ g.nodes, ∀ k ∈ g.nodes,
      ((updateDegreesWith g eorder).ndependents q).count k = (g.edges k).count q := by
    intro q hq k hk
    unfold updateDegreesWith
    rw [degLoop_count]
    simp only [List.count_nil, Nat.zero_add, hq, hk, and_self, if_true]
    by_cases hke : k ∈ g.ekeys
    · simp [hnd.count, hp.mem_iff.2 hke]
    · simp [b.offKeys k hke]
  refine ⟨?_, by simpa using hcount, ?_, ?_⟩
  · intro q hq k hk
    rw [updateDegreesWith_nodes] at hq ⊢
    -- a member of a list built from empty is a key of `eorder` with a node
    apply Classical.byContradiction
    intro hkn
    have : ((updateDegreesWith g eorder).ndependents q).count k = 0 := by
      unfold updateDegreesWith
      rw [degLoop_count]; simp [hkn]
    exact absurd (List.count_pos_iff.2 hk) (by omega)
  · intro q _
    unfold updateDegreesWith
    exact degLoop_inDeg eorder _ (by intro q'; simp) q
  · intro k hk
    rw [updateDegreesWith_nodes] at hk; rw [updateDegreesWith_edges]
    unfold updateDegreesWith
    rw [(degLoop_ndeps_outDeg eorder _ k).2]
    split
    · rfl
    next h =>
      have : k ∉ g.ekeys := fun hke => h ⟨hp.mem_iff.2 hke, hk⟩
      simp [b.offKeys k this]

/-- `Base ∧ Synced` is the well-formedness the Kahn proof needs, for every order in which the
`depCounts` map is ranged over. -/
theorem kahn_wf (g : Graph) (b : Base g) (s : Synced g) (norder : List Key) (hp : norder.Perm g.nodes) :
    Kahn.WF (kahnView g norder) := by
  have hmem : ∀ k, k ∈ norder ↔ k ∈ g.nodes := fun k => hp.mem_iff
  refine ⟨(List.Perm.nodup_iff hp).mpr b.nodesNodup, ?_, ?_, ?_⟩
  · intro k hk d hd
    simp only [kahnView] at hk hd ⊢
    rw [hmem] at hk ⊢
    rw [b.deps k hk] at hd
    exact b.targets k hk d hd
  · intro q hq k hk
    simp only [kahnView] at hq hk ⊢
    rw [hmem] at hq ⊢
    exact s.depnSub q hq k hk
  · intro q hq k hk
    simp only [kahnView] at hq hk ⊢
    rw [hmem] at hq hk
    rw [b.deps k hk]
    exact s.cons q hq k hk

end Godi.Graph
