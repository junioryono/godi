import GodiProofs.Graph.Inv
/-!
The steps the mutations of the graph model are made of preserve the structural invariant `Base`; the deferred add
is put together from them here, `RemoveProvider` and the immediate add in `Remove`, `Add`, `AddRollback`, where
the final `updateDegrees` also gives `Synced`. The frame facts (`nodes`, `edges` after each op) are what the
refinement to the plain digraph (C19) is read off from.
-/
namespace Godi.Graph
open Godi.Kahn (Key)

theorem base_empty : Base ({} : Graph) := by
  refine ⟨by simp, by simp, ?_, ?_, ?_, ?_⟩ <;> simp

theorem synced_empty : Synced ({} : Graph) := by
  refine ⟨?_, ?_, ?_, ?_⟩ <;> simp

theorem insertNode_nodes_mem (g : Graph) (k x : Key) : x ∈ (insertNode g k).nodes ↔ x ∈ g.nodes ∨ x = k := by
  unfold insertNode
  split
  next h => exact ⟨Or.inl, fun hx => hx.elim id (fun e => e ▸ h)⟩
  next h => simp

theorem insertNode_edges (g : Graph) (k : Key) : (insertNode g k).edges = g.edges := by
  unfold insertNode; split <;> rfl

theorem insertNode_ekeys (g : Graph) (k : Key) : (insertNode g k).ekeys = g.ekeys := by
  unfold insertNode; split <;> rfl

theorem insertNode_base (g : Graph) (k : Key) (b : Base g) : Base (insertNode g k) := by
  unfold insertNode
  split
  · exact b
  next hk =>
    refine ⟨?_, b.ekeysNodup, ?_, ?_, b.offKeys, ?_⟩
    · exact nodup_snoc b.nodesNodup hk
    · intro x hx; simp only [List.mem_append, List.mem_singleton]; exact Or.inl (b.ekeysSub x hx)
    · intro x hx d hd
      simp only [List.mem_append, List.mem_singleton] at hx ⊢
      rcases hx with hx | rfl
      · exact Or.inl (b.targets x hx d hd)
      · simp [b.edges_of_not_mem hk] at hd
    · intro x hx
      simp only [List.mem_append, List.mem_singleton] at hx
      by_cases hxk : x = k
      · subst hxk; simp [b.edges_of_not_mem hk]
      · rcases hx with hx | hx
        · simp [hxk, b.deps x hx]
        · exact absurd hx hxk

theorem ensureNodes_base (ds : List Key) : ∀ (g : Graph), Base g → Base (ensureNodes g ds).1 := by
  induction ds with
  | nil => intro g b; exact b
  | cons d rest ih =>
    intro g b
    unfold ensureNodes
    split
    · exact ih g b
    · exact ih _ (insertNode_base g d b)

theorem ensureNodes_spec (ds : List Key) : ∀ (g : Graph),
    (ensureNodes g ds).1.edges = g.edges ∧ (ensureNodes g ds).1.ekeys = g.ekeys ∧
    (∀ x, x ∈ (ensureNodes g ds).1.nodes ↔ x ∈ g.nodes ∨ x ∈ ds) ∧
    (∀ x, x ∈ (ensureNodes g ds).2 ↔ x ∉ g.nodes ∧ x ∈ ds) ∧
    (∀ x ∈ g.nodes, (ensureNodes g ds).1.ndeps x = g.ndeps x ∧ (ensureNodes g ds).1.prov x = g.prov x) := by
  induction ds with
  | nil => intro g; simp [ensureNodes]
  | cons d rest ih =>
    intro g
    unfold ensureNodes
    split
    next hd =>
      obtain ⟨h2, h3, h4, h5, h6⟩ := ih g
      refine ⟨h2, h3, fun x => ?_, fun x => ?_, h6⟩
      · rw [h4, List.mem_cons]
        by_cases hx : x = d <;> simp [hx, hd]
      · rw [h5, List.mem_cons]
        by_cases hx : x = d <;> simp [hx, hd]
    next hd =>
      obtain ⟨h2, h3, h4, h5, h6⟩ := ih (insertNode g d)
      refine ⟨h2.trans (insertNode_edges g d), h3.trans (insertNode_ekeys g d), fun x => ?_, fun x => ?_, fun x hx => ?_⟩
      · rw [h4, insertNode_nodes_mem, List.mem_cons, or_assoc]
      · rw [List.mem_cons, h5, insertNode_nodes_mem, List.mem_cons]
        by_cases hx : x = d <;> simp [hx, hd]
      · have hxd : x ≠ d := fun h => hd (h ▸ hx)
        have := h6 x ((insertNode_nodes_mem g d x).2 (Or.inl hx))
        rw [this.1, this.2]
        unfold insertNode
        simp [hd, hxd]

/-- `node.Dependencies = ds; g.edges[k] = ds` -/
def putEdges (g : Graph) (k : Key) (ds : List Key) : Graph :=
  setEdges { g with ndeps := upd g.ndeps k ds } k ds

/-- `node.Dependencies = nil; delete(g.edges, k)` -/
def dropEdges (g : Graph) (k : Key) : Graph :=
  delEdges { g with ndeps := upd g.ndeps k [] } k

/-- `Base` after the adjacency list of `k` and its `Dependencies` were overwritten with `ds`, whose members are
nodes; the key list of the `edges` map may gain or lose `k` only, and loses it only with an empty `ds` -/
theorem Base.overwrite {g g' : Graph} (b : Base g) (k : Key) (ds : List Key)
    (hn : g'.nodes = g.nodes) (he : g'.edges = upd g.edges k ds) (hd : g'.ndeps = upd g.ndeps k ds)
    (hds : ∀ d ∈ ds, d ∈ g.nodes) (hnd : g'.ekeys.Nodup) (hother : ∀ x, x ≠ k → (x ∈ g'.ekeys ↔ x ∈ g.ekeys))
    (hin : k ∈ g'.ekeys → k ∈ g.nodes) (hout : k ∉ g'.ekeys → ds = []) : Base g' := by
  refine ⟨hn ▸ b.nodesNodup, hnd, fun x hx => ?_, fun x hx d hd' => ?_, fun x hx => ?_, fun x hx => ?_⟩
  · rw [hn]
    by_cases hxk : x = k
    · exact hxk ▸ hin (hxk ▸ hx)
    · exact b.ekeysSub x ((hother x hxk).1 hx)
  · rw [hn] at hx ⊢
    rw [he] at hd'
    by_cases hxk : x = k
    · rw [hxk, upd_self] at hd'; exact hds d hd'
    · rw [upd_ne _ _ hxk] at hd'; exact b.targets x hx d hd'
  · rw [he]
    by_cases hxk : x = k
    · rw [hxk, upd_self]; exact hout (hxk ▸ hx)
    · rw [upd_ne _ _ hxk]; exact b.offKeys x (fun h => hx ((hother x hxk).2 h))
  · rw [hn] at hx
    rw [hd, he]
    by_cases hxk : x = k
    · rw [hxk, upd_self, upd_self]
    · rw [upd_ne _ _ hxk, upd_ne _ _ hxk]; exact b.deps x hx

theorem putEdges_base (g : Graph) (k : Key) (ds : List Key) (b : Base g) (hk : k ∈ g.nodes)
    (hds : ∀ d ∈ ds, d ∈ g.nodes) : Base (putEdges g k ds) := by
  have hkin : k ∈ (putEdges g k ds).ekeys := by
    show k ∈ (if k ∈ g.ekeys then g.ekeys else g.ekeys ++ [k])
    split <;> simp [*]
  refine b.overwrite k ds rfl rfl rfl hds ?_ (fun x hxk => ?_) (fun _ => hk) (fun h => absurd hkin h)
  · show (if k ∈ g.ekeys then g.ekeys else g.ekeys ++ [k]).Nodup
    split
    · exact b.ekeysNodup
    next h => exact nodup_snoc b.ekeysNodup h
  · show x ∈ (if k ∈ g.ekeys then g.ekeys else g.ekeys ++ [k]) ↔ _
    split <;> simp [hxk]

theorem dropEdges_base (g : Graph) (k : Key) (b : Base g) : Base (dropEdges g k) :=
  b.overwrite k [] rfl rfl rfl (fun _ h => nomatch h) (b.ekeysNodup.erase k) (fun _ h => List.mem_erase_of_ne h)
    (fun h => absurd h b.ekeysNodup.not_mem_erase) (fun _ => rfl)

def setProv (g : Graph) (k : Key) (p : Option Nat) : Graph := { g with prov := upd g.prov k p }

theorem setProv_base (g : Graph) (k : Key) (p : Option Nat) (b : Base g) : Base (setProv g k p) :=
  b.of_eq rfl rfl rfl (fun _ _ => rfl)

@[simp] theorem setProv_nodes (g : Graph) (k : Key) (p : Option Nat) : (setProv g k p).nodes = g.nodes := rfl
@[simp] theorem setProv_edges (g : Graph) (k : Key) (p : Option Nat) : (setProv g k p).edges = g.edges := rfl
@[simp] theorem setProv_ekeys (g : Graph) (k : Key) (p : Option Nat) : (setProv g k p).ekeys = g.ekeys := rfl
@[simp] theorem setProv_ndeps (g : Graph) (k : Key) (p : Option Nat) : (setProv g k p).ndeps = g.ndeps := rfl

theorem setFlags_base (g : Graph) (a c : Bool) (b : Base g) :
    Base { g with sortedDirty := a, cycleDirty := c } :=
  b.of_eq rfl rfl rfl (fun _ _ => rfl)

theorem setFlags_synced (g : Graph) (a c : Bool) (s : Synced g) :
    Synced { g with sortedDirty := a, cycleDirty := c } :=
  s.of_eq rfl rfl rfl rfl rfl

/-- both adds start by making sure that `k` has a node and storing the provider in it -/
def withNode (g : Graph) (k : Key) (p : Nat) : Graph := setProv (insertNode g k) k (some p)

theorem withNode_base (g : Graph) (b : Base g) (k : Key) (p : Nat) : Base (withNode g k p) :=
  setProv_base _ _ _ (insertNode_base g k b)
theorem withNode_nodes_mem (g : Graph) (k : Key) (p : Nat) (x : Key) : x ∈ (withNode g k p).nodes ↔ x ∈ g.nodes ∨ x = k :=
  insertNode_nodes_mem g k x
@[simp] theorem withNode_edges (g : Graph) (k : Key) (p : Nat) : (withNode g k p).edges = g.edges := insertNode_edges g k
@[simp] theorem withNode_ekeys (g : Graph) (k : Key) (p : Nat) : (withNode g k p).ekeys = g.ekeys := insertNode_ekeys g k

theorem putEdges_ensureNodes (g : Graph) (b : Base g) (k : Key) (hk : k ∈ g.nodes) (ds : List Key) :
    Base (putEdges (ensureNodes g ds).1 k ds) ∧
    (putEdges (ensureNodes g ds).1 k ds).edges = upd g.edges k ds ∧
    (∀ x, x ∈ (putEdges (ensureNodes g ds).1 k ds).nodes ↔ x ∈ g.nodes ∨ x ∈ ds) ∧
    (putEdges (ensureNodes g ds).1 k ds).ekeys = if k ∈ g.ekeys then g.ekeys else g.ekeys ++ [k] := by
  obtain ⟨h2, h3, h4, _⟩ := ensureNodes_spec ds g
  refine ⟨putEdges_base _ _ _ (ensureNodes_base ds g b) ((h4 k).2 (Or.inl hk)) (fun d hd => (h4 d).2 (Or.inr hd)), ?_, h4, ?_⟩
  · show upd (ensureNodes g ds).1.edges k ds = _
    rw [h2]
  · show (if k ∈ (ensureNodes g ds).1.ekeys then _ else _) = _
    rw [h3]

theorem addProviderDeferred_eq (g : Graph) (k : Key) (p : Nat) (ds : List Key) :
    addProviderDeferred g k p ds =
      { (if ds.length > 0 then putEdges (ensureNodes (withNode g k p) ds).1 k ds
         else dropEdges (withNode g k p) k) with sortedDirty := true, cycleDirty := true } := by
  unfold addProviderDeferred putEdges dropEdges withNode setProv
  simp only []

theorem addProviderDeferred_spec (g : Graph) (b : Base g) (k : Key) (p : Nat) (ds : List Key) :
    Base (addProviderDeferred g k p ds) ∧
    (addProviderDeferred g k p ds).edges = upd g.edges k ds ∧
    (∀ x, x ∈ (addProviderDeferred g k p ds).nodes ↔ x ∈ g.nodes ∨ x = k ∨ x ∈ ds) := by
  rw [addProviderDeferred_eq]
  have b2 := withNode_base g b k p
  split
  · obtain ⟨h1, h2, h3, _⟩ := putEdges_ensureNodes _ b2 k ((withNode_nodes_mem g k p k).2 (Or.inr rfl)) ds
    refine ⟨setFlags_base _ _ _ h1, h2.trans (by rw [withNode_edges]), fun x => (h3 x).trans ?_⟩
    rw [withNode_nodes_mem, or_assoc]
  next h =>
    cases ds with
    | cons _ _ => simp at h
    | nil =>
      refine ⟨setFlags_base _ _ _ (dropEdges_base _ _ b2), ?_, fun x => ?_⟩
      · show upd (withNode g k p).edges k [] = _
        rw [withNode_edges]
      · show x ∈ (withNode g k p).nodes ↔ _
        rw [withNode_nodes_mem]; simp

theorem addProviderDeferred_base (g : Graph) (k : Key) (p : Nat) (ds : List Key) (b : Base g) :
    Base (addProviderDeferred g k p ds) :=
  (addProviderDeferred_spec g b k p ds).1

theorem addProviderDeferred_edges (g : Graph) (k : Key) (p : Nat) (ds : List Key) (b : Base g) :
    (addProviderDeferred g k p ds).edges = upd g.edges k ds :=
  (addProviderDeferred_spec g b k p ds).2.1

theorem addProviderDeferred_nodes (g : Graph) (k : Key) (p : Nat) (ds : List Key) (b : Base g) (x : Key) :
    x ∈ (addProviderDeferred g k p ds).nodes ↔ x ∈ g.nodes ∨ x = k ∨ x ∈ ds :=
  (addProviderDeferred_spec g b k p ds).2.2 x

end Godi.Graph
