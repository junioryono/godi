import GodiProofs.Graph.Inv
/-!
# `GetTransitiveDependencies` is the reachable set

The recursive closure `collect` of graph.go, with the fuel the model runs on, returns exactly the nodes reachable from
the start by one or more edges, except the start itself (which is marked visited before the walk), each once.
Proof: one invariant pair for the depth-first walk — every node that became visited during a call has all its
successors visited when the call returns (closure), and the visited set is the start plus the result list — and a
counting argument for the fuel: every nested call marks a node of `start :: nodes` that was not marked before.
-/
namespace Godi.Graph
open Godi.Spec
open Godi.Kahn (Key)

/-- the visited set is the start plus the result list; the result has no repetition and not the start -/
def Jp (k : Key) (vis res : List Key) : Prop := (∀ x, x ∈ vis ↔ x = k ∨ x ∈ res) ∧ k ∉ res ∧ res.Nodup

def SoundV (E : Key → List Key) (k : Key) (vis : List Key) : Prop := ∀ x ∈ vis, x = k ∨ Reach E k x

structure Out (E : Key → List Key) (k : Key) (vis vis2 res2 : List Key) : Prop where
  sub : ∀ x ∈ vis, x ∈ vis2
  closed : ∀ x ∈ vis2, x ∉ vis → ∀ y ∈ E x, y ∈ vis2
  j : Jp k vis2 res2
  sound : SoundV E k vis2

theorem Out.trans {E : Key → List Key} {k : Key} {v0 v1 v2 r2 : List Key}
    (sub01 : ∀ x ∈ v0, x ∈ v1) (cl01 : ∀ x ∈ v1, x ∉ v0 → ∀ y ∈ E x, y ∈ v1) (o : Out E k v1 v2 r2) : Out E k v0 v2 r2 :=
  ⟨fun x hx => o.sub x (sub01 x hx), swept_trans cl01 o.sub o.closed, o.j, o.sound⟩

theorem jp_push {k d : Key} {vis res : List Key} (j : Jp k vis res) (hd : d ∉ vis) : Jp k (d :: vis) (res ++ [d]) := by
  obtain ⟨j1, j2, j3⟩ := j
  have hdk : k ≠ d := fun e => hd ((j1 d).2 (Or.inl e.symm))
  have hdr : d ∉ res := fun h => hd ((j1 d).2 (Or.inr h))
  refine ⟨fun x => ?_, by simp [j2, hdk], nodup_snoc j3 hdr⟩
  rw [List.mem_cons, List.mem_append, List.mem_singleton, j1 x, or_left_comm, or_comm (a := x = d)]

theorem collectList_cons_seen (rec : Key → List Key × List Key → List Key × List Key) {d : Key} (rest : List Key)
    {vis : List Key} (res : List Key) (hd : d ∈ vis) :
    collectList rec (d :: rest) (vis, res) = collectList rec rest (vis, res) := by
  simp only [collectList, hd, if_true]

theorem collectList_cons_new (rec : Key → List Key × List Key → List Key × List Key) {d : Key} (rest : List Key)
    {vis : List Key} (res : List Key) (hd : d ∉ vis) :
    collectList rec (d :: rest) (vis, res) = collectList rec rest (rec d (vis, res ++ [d])) := by
  simp only [collectList, hd, if_false]

theorem collect_succ (E : Key → List Key) (f : Nat) {cur : Key} {vis : List Key} (res : List Key) (hv : cur ∉ vis) :
    collect E (f + 1) cur (vis, res) = collectList (collect E f) (E cur) (cur :: vis, res) := by
  simp only [collect, hv, if_false]

theorem collectList_spec (E : Key → List Key) (k : Key) (U : List Key) (f : Nat)
    (ih : ∀ cur vis res, cur ∈ U → cur ∉ vis → unv U vis ≤ f → Jp k (cur :: vis) res → SoundV E k (cur :: vis) →
      Out E k vis (collect E f cur (vis, res)).1 (collect E f cur (vis, res)).2 ∧ cur ∈ (collect E f cur (vis, res)).1) :
    ∀ (l : List Key) (vis res : List Key), (∀ d ∈ l, d ∈ U) → (∀ d ∈ l, Reach E k d) → unv U vis ≤ f →
      Jp k vis res → SoundV E k vis →
      Out E k vis (collectList (collect E f) l (vis, res)).1 (collectList (collect E f) l (vis, res)).2 ∧
        ∀ d ∈ l, d ∈ (collectList (collect E f) l (vis, res)).1 := by
  intro l
  induction l with
  | nil =>
    intro vis res _ _ _ j s
    exact ⟨⟨fun _ h => h, fun x hx hn => absurd hx hn, j, s⟩, fun d hd => by cases hd⟩
  | cons d rest ihl =>
    intro vis res hlU hlR hf j s
    have hrU : ∀ d ∈ rest, d ∈ U := fun x hx => hlU x (List.mem_cons_of_mem _ hx)
    have hrR : ∀ d ∈ rest, Reach E k d := fun x hx => hlR x (List.mem_cons_of_mem _ hx)
    by_cases hd : d ∈ vis
    · rw [collectList_cons_seen _ rest res hd]
      obtain ⟨o, hm⟩ := ihl vis res hrU hrR hf j s
      exact ⟨o, List.forall_mem_cons.2 ⟨o.sub _ hd, hm⟩⟩
    · rw [collectList_cons_new _ rest res hd]
      have s1 : SoundV E k (d :: vis) :=
        List.forall_mem_cons.2 ⟨Or.inr (hlR _ (List.mem_cons_self ..)), s⟩
      obtain ⟨o1, hd1⟩ := ih d vis (res ++ [d]) (hlU d (List.mem_cons_self ..)) hd hf (jp_push j hd) s1
      have hf1 : unv U (collect E f d (vis, res ++ [d])).1 ≤ f := Nat.le_trans (unv_mono U o1.sub) hf
      obtain ⟨o2, hm2⟩ := ihl _ _ hrU hrR hf1 o1.j o1.sound
      exact ⟨Out.trans o1.sub o1.closed o2, List.forall_mem_cons.2 ⟨o2.sub _ hd1, hm2⟩⟩

theorem collect_spec (E : Key → List Key) (k : Key) (U : List Key) (hU : ∀ x ∈ U, ∀ y ∈ E x, y ∈ U) : ∀ (f : Nat) (cur : Key) (vis res : List Key), cur ∈ U → cur ∉ vis → unv U vis ≤ f →
    Jp k (cur :: vis) res → SoundV E k (cur :: vis) →
    Out E k vis (collect E f cur (vis, res)).1 (collect E f cur (vis, res)).2 ∧ cur ∈ (collect E f cur (vis, res)).1 := by
  intro f
  induction f with
  | zero =>
    intro cur vis res hc hv hf _ _
    have := unv_lt U hc hv
    omega
  | succ f ih =>
    intro cur vis res hc hv hf j s
    rw [collect_succ E f res hv]
    have hf2 : unv U (cur :: vis) ≤ f := by have := unv_lt U hc hv; omega
    have hR : ∀ d ∈ E cur, Reach E k d := by
      intro d hd
      rcases s cur (List.mem_cons_self ..) with h | h
      · subst h; exact .single hd
      · exact h.snoc hd
    obtain ⟨o, hm⟩ := collectList_spec E k U f ih (E cur) (cur :: vis) res (hU cur hc) hR hf2 j s
    exact ⟨⟨fun x hx => o.sub x (List.mem_cons_of_mem _ hx), swept_node o.closed hm, o.j, o.sound⟩,
      o.sub _ (List.mem_cons_self ..)⟩

theorem transitive_spec (g : Graph) (b : Base g) (k : Key) :
    (getTransitiveDependencies g k).Nodup ∧
    ∀ x, x ∈ getTransitiveDependencies g k ↔ (x ≠ k ∧ Reach g.edges k x) := by
  have hU : ∀ x ∈ k :: g.nodes, ∀ y ∈ g.edges x, y ∈ k :: g.nodes := by
    intro x hx y hy
    by_cases hn : x ∈ g.nodes
    · exact List.mem_cons_of_mem _ (b.targets x hn y hy)
    · rw [b.edges_of_not_mem hn] at hy; cases hy
  -- the fuel `n + 2`: one unit per member of `k :: nodes` that gets marked, one for the call that returns at once
  have hf : unv (k :: g.nodes) [] ≤ g.nodes.length + 2 := by
    have := unv_nil_le (k :: g.nodes)
    simp only [List.length_cons] at this
    omega
  have j0 : Jp k [k] [] := ⟨fun x => by simp, by simp, by simp⟩
  have s0 : SoundV g.edges k [k] := fun x hx => Or.inl (by simpa using hx)
  obtain ⟨o, hk⟩ := collect_spec g.edges k (k :: g.nodes) hU (g.nodes.length + 2) k [] [] (List.mem_cons_self ..)
    (by simp) hf j0 s0
  unfold getTransitiveDependencies
  obtain ⟨j1, j2, j3⟩ := o.j
  refine ⟨j3, ?_⟩
  intro x
  constructor
  · intro hx
    have hxv := (j1 x).2 (Or.inr hx)
    have hne : x ≠ k := fun e => j2 (e ▸ hx)
    rcases o.sound x hxv with h | h
    · exact absurd h hne
    · exact ⟨hne, h⟩
  · rintro ⟨hne, hr⟩
    rcases (j1 x).1 (hr.closed (fun a ha => o.closed a ha (by simp)) hk) with h | h
    · exact absurd h hne
    · exact h

end Godi.Graph
