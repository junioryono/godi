import GodiProofs.Graph.Ops
/-! Frame facts of the cycle check: `detectCyclesFrom` and the loop over the nodes write the cycle cache only;
`DetectCycles` recomputes the derived per-node fields first and then writes the cycle cache and its flag. -/
namespace Godi.Graph
open Godi.Kahn (Key)

/-- the structural fields (everything except caches, flags and depths) coincide -/
structure SameStruct (g g' : Graph) : Prop where
  nodes : g'.nodes = g.nodes
  edges : g'.edges = g.edges
  ekeys : g'.ekeys = g.ekeys
  ndeps : g'.ndeps = g.ndeps
  ndependents : g'.ndependents = g.ndependents
  inDeg : g'.inDeg = g.inDeg
  outDeg : g'.outDeg = g.outDeg
  prov : g'.prov = g.prov

theorem SameStruct.refl (g : Graph) : SameStruct g g := ⟨rfl, rfl, rfl, rfl, rfl, rfl, rfl, rfl⟩
theorem SameStruct.trans {a b c : Graph} (h1 : SameStruct a b) (h2 : SameStruct b c) : SameStruct a c :=
  ⟨h2.nodes.trans h1.nodes, h2.edges.trans h1.edges, h2.ekeys.trans h1.ekeys, h2.ndeps.trans h1.ndeps,
   h2.ndependents.trans h1.ndependents, h2.inDeg.trans h1.inDeg, h2.outDeg.trans h1.outDeg, h2.prov.trans h1.prov⟩

theorem SameStruct.base {g g' : Graph} (h : SameStruct g g') (b : Base g) : Base g' :=
  b.of_eq h.nodes h.ekeys h.edges (fun k _ => congrFun h.ndeps k)

theorem SameStruct.synced {g g' : Graph} (h : SameStruct g g') (s : Synced g) : Synced g' :=
  s.of_eq h.nodes h.edges h.ndependents h.inDeg h.outDeg

theorem detectCyclesFrom_fst (g : Graph) (s : Key) : ∃ c, (detectCyclesFrom g s).1 = { g with cycleTrue := c } := by
  unfold detectCyclesFrom
  split
  · exact ⟨_, rfl⟩
  · split <;> exact ⟨_, rfl⟩

theorem detectCyclesFrom_same (g : Graph) (k : Key) : SameStruct g (detectCyclesFrom g k).1 := by
  obtain ⟨c, h⟩ := detectCyclesFrom_fst g k
  rw [h]; exact ⟨rfl, rfl, rfl, rfl, rfl, rfl, rfl, rfl⟩

theorem detectCyclesFrom_ok {g g' : Graph} {s : Key} (h : detectCyclesFrom g s = (g', .ok)) : g' = g := by
  unfold detectCyclesFrom at h
  split at h
  · exact (Prod.mk.inj h).1.symm
  · split at h
    · exact (Prod.mk.inj h).1.symm
    · cases (Prod.mk.inj h).2
    · cases (Prod.mk.inj h).2

/-- `detectLoop` runs `detectCyclesFrom` on one and the same graph for the keys of the list in turn and
stops at the first answer that is not `ok` -/
theorem detectLoop_spec (l : List Key) (g : Graph) :
    (detectLoop g l = (g, .ok) ∧ ∀ k ∈ l, (detectCyclesFrom g k).2 = .ok) ∨
    ∃ k ∈ l, detectLoop g l = detectCyclesFrom g k ∧ (detectCyclesFrom g k).2 ≠ .ok := by
  induction l with
  | nil => exact Or.inl ⟨rfl, fun k hk => by cases hk⟩
  | cons k rest ih =>
    unfold detectLoop
    split
    next g1 heq =>
      cases detectCyclesFrom_ok heq
      rcases ih with ⟨h1, h2⟩ | ⟨x, hx, h1, h2⟩
      · refine Or.inl ⟨h1, fun x hx => ?_⟩
        rcases List.mem_cons.1 hx with rfl | hx
        · rw [heq]
        · exact h2 x hx
      · exact Or.inr ⟨x, List.mem_cons_of_mem _ hx, h1, h2⟩
    next hne =>
      refine Or.inr ⟨k, List.mem_cons_self .., rfl, fun h => hne (detectCyclesFrom g k).1 ?_⟩
      rw [← h]

theorem detectLoop_ok_iff (l : List Key) (g : Graph) :
    (detectLoop g l).2 = .ok ↔ ∀ k ∈ l, (detectCyclesFrom g k).2 = .ok := by
  rcases detectLoop_spec l g with ⟨h1, h2⟩ | ⟨k, hk, h1, h2⟩
  · rw [h1]; exact ⟨fun _ => h2, fun _ => rfl⟩
  · rw [h1]; exact ⟨fun h => absurd h h2, fun h => h k hk⟩

theorem detectLoop_fst (l : List Key) (g : Graph) : ∃ c, (detectLoop g l).1 = { g with cycleTrue := c } := by
  rcases detectLoop_spec l g with ⟨h1, _⟩ | ⟨k, _, h1, _⟩
  · rw [h1]; exact ⟨_, rfl⟩
  · rw [h1]; exact detectCyclesFrom_fst g k

@[simp] theorem resetCycleCache_sortedDirty (g : Graph) : (resetCycleCache g).sortedDirty = g.sortedDirty := rfl
@[simp] theorem setCycleClean_sortedDirty (g : Graph) : (setCycleClean g).sortedDirty = g.sortedDirty := rfl

theorem detectCyclesWith_dirty (g : Graph) (eorder norder : List Key) (h : g.cycleDirty = true) :
    detectCyclesWith g eorder norder =
      (setCycleClean (detectLoop (resetCycleCache (updateDegreesWith g eorder)) norder).1,
       (detectLoop (resetCycleCache (updateDegreesWith g eorder)) norder).2) := by
  simp [detectCyclesWith, h]

theorem detectCyclesWith_clean (g : Graph) (eorder norder : List Key) (h : g.cycleDirty = false) :
    (detectCyclesWith g eorder norder).1 = updateDegreesWith g eorder := by
  simp only [detectCyclesWith, updateDegreesWith_cycleDirty, h, Bool.false_eq_true, ↓reduceIte]
  split <;> rfl

theorem detectCyclesWith_fst (g : Graph) (eorder norder : List Key) :
    ∃ c d, (detectCyclesWith g eorder norder).1 = { updateDegreesWith g eorder with cycleTrue := c, cycleDirty := d } := by
  cases hd : g.cycleDirty with
  | false =>
    rw [detectCyclesWith_clean g eorder norder hd]
    exact ⟨_, _, rfl⟩
  | true =>
    obtain ⟨c, h⟩ := detectLoop_fst norder (resetCycleCache (updateDegreesWith g eorder))
    rw [detectCyclesWith_dirty g eorder norder hd, h]
    exact ⟨c, false, rfl⟩

theorem detectCyclesWith_sortedDirty (g : Graph) (eorder norder : List Key) :
    (detectCyclesWith g eorder norder).1.sortedDirty = g.sortedDirty := by
  obtain ⟨_, _, h⟩ := detectCyclesWith_fst g eorder norder
  rw [h]; exact updateDegreesWith_sortedDirty g eorder

/-- after `DetectCycles` — whatever it answers and for every iteration order — the graph is
structurally the one before, with its degree/dependent fields in sync -/
theorem detectCyclesWith_base_synced (g : Graph) (eorder norder : List Key) (hp : eorder.Perm g.ekeys)
    (b : Base g) :
    Base (detectCyclesWith g eorder norder).1 ∧ Synced (detectCyclesWith g eorder norder).1 ∧
    (detectCyclesWith g eorder norder).1.nodes = g.nodes ∧ (detectCyclesWith g eorder norder).1.edges = g.edges := by
  obtain ⟨_, _, h⟩ := detectCyclesWith_fst g eorder norder
  have hs : SameStruct (updateDegreesWith g eorder) (detectCyclesWith g eorder norder).1 := by
    rw [h]; exact ⟨rfl, rfl, rfl, rfl, rfl, rfl, rfl, rfl⟩
  exact ⟨hs.base (updateDegreesWith_base g eorder b), hs.synced (updateDegreesWith_synced g eorder hp b),
    hs.nodes.trans (updateDegreesWith_nodes g eorder), hs.edges.trans (updateDegreesWith_edges g eorder)⟩

end Godi.Graph
