import GodiProofs.Graph.Basic
/-! The invariant of the queue loop of Kahn's algorithm: the counter of a node is the number of occurrences of
dependencies of it that were not emitted yet (`pending`), and a node is emitted or queued exactly when that number
is zero. -/
namespace Godi.Kahn

/-- what Kahn's algorithm assumes of its input: the `Dependents` lists mirror the `Dependencies` lists, with
multiplicity (`cons`), and both stay inside the node list -/
structure WF (v : View) : Prop where
  nodup : v.nodes.Nodup
  deps_closed : ∀ k ∈ v.nodes, ∀ d ∈ v.deps k, d ∈ v.nodes
  depn_closed : ∀ q ∈ v.nodes, ∀ k ∈ v.dependents q, k ∈ v.nodes
  cons : ∀ q ∈ v.nodes, ∀ k ∈ v.nodes, (v.dependents q).count k = (v.deps k).count q

/-- number of dependency occurrences of `k` not yet emitted -/
def pending (v : View) (res : List Key) (k : Key) : Nat :=
  (v.deps k).countP (fun d => decide (d ∉ res))

theorem countP_snoc (res l : List Key) (q : Key) (hq : q ∉ res) :
    l.countP (fun d => decide (d ∉ res ++ [q])) + l.count q
      = l.countP (fun d => decide (d ∉ res)) := by
  induction l with
  | nil => simp
  | cons a l ih =>
    by_cases ha : a = q
    · subst ha
      simp [hq] at ih ⊢
      omega
    · by_cases har : a ∈ res <;> simp [ha, har] at ih ⊢ <;> omega

theorem pending_snoc (v : View) (res : List Key) (q k : Key) (hq : q ∉ res) :
    pending v (res ++ [q]) k + (v.deps k).count q = pending v res k :=
  countP_snoc res (v.deps k) q hq

theorem pending_zero_iff (v : View) (res : List Key) (k : Key) :
    pending v res k = 0 ↔ ∀ d ∈ v.deps k, d ∈ res := by
  simp [pending, List.countP_eq_zero]

theorem pending_pos_iff (v : View) (res : List Key) (k : Key) :
    0 < pending v res k ↔ ∃ d ∈ v.deps k, d ∉ res := by
  simp [pending, List.countP_pos_iff]

structure Inv (v : View) (queue : List Key) (cnt : Key → Int) (res : List Key) : Prop where
  nd : (res ++ queue).Nodup
  sub : ∀ k ∈ res ++ queue, k ∈ v.nodes
  cntEq : ∀ k ∈ v.nodes, cnt k = (pending v res k : Int)
  ready : ∀ k ∈ v.nodes, (k ∈ res ++ queue ↔ pending v res k = 0)
  topo : Dfs.Closed v.deps res.reverse

theorem inv_init (v : View) (wf : WF v) :
    Inv v (v.nodes.filter (fun k => initCnt v k == 0)) (initCnt v) [] := by
  have hp : ∀ k, pending v [] k = (v.deps k).length := by
    intro k; simp [pending]
  refine ⟨?_, ?_, ?_, ?_, ?_⟩
  · simpa using List.Nodup.sublist List.filter_sublist wf.nodup
  · intro k hk; simp at hk; exact hk.1
  · intro k _; simp [initCnt, hp]
  · intro k hk
    simp [initCnt, hp, hk]
  · simp [Dfs.Closed]

theorem mem_relax (c : Key → Int) (L : List Key) (k : Key) :
    k ∈ (relax c L).2 ↔ 1 ≤ c k ∧ c k ≤ (L.count k : Int) := by
  rw [← List.count_pos_iff, relax_count]
  split <;> simp [*]

theorem relax_nodup (c : Key → Int) (L : List Key) : (relax c L).2.Nodup := by
  rw [List.nodup_iff_count]
  intro k; rw [relax_count]; split <;> omega

theorem inv_step (v : View) (wf : WF v) (q : Key) (qs : List Key) (cnt : Key → Int) (res : List Key)
    (inv : Inv v (q :: qs) cnt res) :
    Inv v (qs ++ (relax cnt (v.dependents q)).2) (relax cnt (v.dependents q)).1 (res ++ [q]) := by
  have hqn : q ∈ v.nodes := inv.sub q (by simp)
  have hnd := inv.nd
  have hq_res : q ∉ res := fun h => (List.nodup_append.1 hnd).2.2 q h q (by simp) rfl
  have hq0 : pending v res q = 0 := (inv.ready q hqn).1 (by simp)
  -- emitting `q` takes its occurrences out of what is pending; the counters are lowered by as much
  have hpend : ∀ k ∈ v.nodes, (pending v (res ++ [q]) k : Int)
      = cnt k - ((v.dependents q).count k : Int) := by
    intro k hk
    have h1 := pending_snoc v res q k hq_res
    have h2 := wf.cons q hqn k hk
    have h3 := inv.cntEq k hk
    omega
  -- the newly enqueued keys: nothing pending any more, something pending before
  have hnew : ∀ k ∈ v.nodes, (k ∈ (relax cnt (v.dependents q)).2 ↔
      (pending v (res ++ [q]) k = 0 ∧ 1 ≤ pending v res k)) := by
    intro k hk
    have h1 := pending_snoc v res q k hq_res
    have h2 := wf.cons q hqn k hk
    have h3 := inv.cntEq k hk
    rw [mem_relax]
    omega
  have hnew_sub : ∀ k ∈ (relax cnt (v.dependents q)).2, k ∈ v.nodes := by
    intro k hk
    have := (mem_relax _ _ k).1 hk
    exact wf.depn_closed q hqn k (List.count_pos_iff.1 (by omega))
  have hnew_nd := relax_nodup cnt (v.dependents q)
  -- the new state, with `q` still counted as queued
  have e : (res ++ [q]) ++ (qs ++ (relax cnt (v.dependents q)).2) = (res ++ q :: qs) ++ (relax cnt (v.dependents q)).2 := by
    simp
  refine ⟨?_, ?_, ?_, ?_, ?_⟩
  · -- a newly enqueued key had dependencies pending, so it was neither emitted nor queued
    rw [e, List.nodup_append]
    refine ⟨hnd, hnew_nd, ?_⟩
    intro a ha b hb hab; subst hab
    have hkn := hnew_sub a hb
    have := ((hnew a hkn).1 hb).2
    have := (inv.ready a hkn).1 ha
    omega
  · intro k hk
    rw [e] at hk
    exact (List.mem_append.1 hk).elim (inv.sub k) (hnew_sub k)
  · intro k hk
    rw [relax_cnt, hpend k hk]
  · intro k hk
    have h1 := pending_snoc v res q k hq_res
    rw [e, List.mem_append, inv.ready k hk, hnew k hk]
    omega
  · simp only [List.reverse_append, List.reverse_cons, List.reverse_nil, List.nil_append,
      List.singleton_append, Dfs.Closed]
    refine ⟨?_, inv.topo⟩
    intro d hd
    simp
    exact (pending_zero_iff v res q).1 hq0 d hd

end Godi.Kahn
