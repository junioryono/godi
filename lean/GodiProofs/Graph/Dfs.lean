import GodiModel.Dfs
import GodiProofs.Graph.Basic
/-!
The explicit-stack DFS of `detectCyclesFrom` answers correctly. Soundness: the items with `fresh = false` (markers)
form a path from the top of the stack down, and a fresh item is a successor of the nearest marker below it; a fresh
item whose key is being visited therefore closes a cycle. Completeness: `visited` is kept in an order in which the
successors of every node were visited before it, and such a list contains no cycle.
-/
namespace Godi.Dfs
open Godi.Kahn (Key)
open Godi.Spec (Reach)

inductive Path (edges : Key → List Key) : Key → Key → Prop
  | single {a b} : b ∈ edges a → Path edges a b
  | cons {a b c} : b ∈ edges a → Path edges b c → Path edges a c

theorem path_iff_reach {edges : Key → List Key} {a b : Key} : Path edges a b ↔ Reach edges a b := by
  constructor
  · intro p
    induction p with
    | single h => exact .single h
    | cons h _ ih => exact .cons h ih
  · intro p
    induction p with
    | single h => exact .single h
    | cons h _ ih => exact .cons h ih

theorem Path.snoc {edges} {a c b : Key} (p : Path edges a c) (h : b ∈ edges c) : Path edges a b :=
  path_iff_reach.2 ((path_iff_reach.1 p).snoc h)

/-- reflexive-transitive reachability -/
def RT (edges : Key → List Key) (a b : Key) : Prop := a = b ∨ Path edges a b

theorem RT.snoc {edges} {a c b : Key} (p : RT edges a c) (h : b ∈ edges c) : Path edges a b := by
  rcases p with rfl | p
  · exact .single h
  · exact p.snoc h

theorem dfs_pop (edges : Key → List Key) (f : Nat) (k : Key) (st : List Item) (vi vd : List Key) :
    dfs edges (f + 1) (⟨k, false⟩ :: st) vi vd = dfs edges f st (vi.erase k) (k :: vd) := by
  simp [dfs]

theorem dfs_cycle (edges : Key → List Key) (f : Nat) {k : Key} (st : List Item) {vi : List Key} (vd : List Key)
    (h : k ∈ vi) : dfs edges (f + 1) (⟨k, true⟩ :: st) vi vd = .cycle k := by
  simp [dfs, h]

theorem dfs_skip (edges : Key → List Key) (f : Nat) {k : Key} (st : List Item) {vi vd : List Key}
    (h1 : k ∉ vi) (h2 : k ∈ vd) : dfs edges (f + 1) (⟨k, true⟩ :: st) vi vd = dfs edges f st vi vd := by
  simp [dfs, h1, h2]

theorem dfs_expand (edges : Key → List Key) (f : Nat) {k : Key} (st : List Item) {vi vd : List Key}
    (h1 : k ∉ vi) (h2 : k ∉ vd) :
    dfs edges (f + 1) (⟨k, true⟩ :: st) vi vd = dfs edges f (push edges vd k ++ ⟨k, false⟩ :: st) (k :: vi) vd := by
  simp [dfs, h1, h2]

/-- an invariant of the three iterations that go on holds of the state in which the search stops: with the fresh
item `k` on top and `k ∈ visiting` when it reports `k`, with an empty stack when it ends -/
theorem dfs_invariant {edges : Key → List Key} {P : List Item → List Key → List Key → Prop}
    (pop : ∀ k st vi vd, P (⟨k, false⟩ :: st) vi vd → P st (vi.erase k) (k :: vd))
    (skip : ∀ k st vi vd, k ∉ vi → k ∈ vd → P (⟨k, true⟩ :: st) vi vd → P st vi vd)
    (expand : ∀ k st vi vd, k ∉ vi → k ∉ vd → P (⟨k, true⟩ :: st) vi vd →
      P (push edges vd k ++ ⟨k, false⟩ :: st) (k :: vi) vd) :
    ∀ fuel st vi vd, P st vi vd →
      (∀ k, dfs edges fuel st vi vd = .cycle k → ∃ st' vi' vd', P (⟨k, true⟩ :: st') vi' vd' ∧ k ∈ vi') ∧
      (∀ out, dfs edges fuel st vi vd = .ok out → ∃ vi', P [] vi' out) := by
  intro fuel
  induction fuel with
  | zero => intro st vi vd _; exact ⟨fun k h => by simp [dfs] at h, fun out h => by simp [dfs] at h⟩
  | succ f ih =>
    intro st vi vd hP
    match st with
    | [] =>
      refine ⟨fun k h => by simp [dfs] at h, fun out h => ⟨vi, ?_⟩⟩
      cases (DRes.ok.inj h : vd = out); exact hP
    | ⟨k, false⟩ :: st => rw [dfs_pop]; exact ih _ _ _ (pop k st vi vd hP)
    | ⟨k, true⟩ :: st =>
      by_cases h1 : k ∈ vi
      · rw [dfs_cycle edges f st vd h1]
        exact ⟨fun k' h => by cases h; exact ⟨st, vi, vd, hP, h1⟩, fun out h => by cases h⟩
      · by_cases h2 : k ∈ vd
        · rw [dfs_skip edges f st h1 h2]; exact ih _ _ _ (skip k st vi vd h1 h2 hP)
        · rw [dfs_expand edges f st h1 h2]; exact ih _ _ _ (expand k st vi vd h1 h2 hP)

/-- the keys of the items with `fresh = false`: the nodes whose expansion is under way, innermost first -/
def markers : List Item → List Key
  | [] => []
  | it :: st => if it.fresh then markers st else it.key :: markers st

def nearest : List Item → Option Key
  | [] => none
  | it :: st => if it.fresh then nearest st else some it.key

/-- every item is a successor of the nearest marker below it -/
def Good (edges : Key → List Key) : List Item → Prop
  | [] => True
  | it :: st => (∀ p, nearest st = some p → it.key ∈ edges p) ∧ Good edges st

@[simp] theorem markers_marker (k : Key) (st : List Item) : markers (⟨k, false⟩ :: st) = k :: markers st := rfl
@[simp] theorem nearest_fresh (k : Key) (st : List Item) : nearest (⟨k, true⟩ :: st) = nearest st := rfl
@[simp] theorem nearest_marker (k : Key) (st : List Item) : nearest (⟨k, false⟩ :: st) = some k := rfl

theorem nearest_of_mem_markers : ∀ (st : List Item) (k : Key), k ∈ markers st → ∃ t, nearest st = some t
  | ⟨a, false⟩ :: _, _, _ => ⟨a, rfl⟩
  | ⟨_, true⟩ :: st, k, h => nearest_of_mem_markers st k h

theorem chain_to_nearest (edges) : ∀ (st : List Item), Good edges st → ∀ k ∈ markers st, ∀ t,
    nearest st = some t → RT edges k t
  | ⟨a, false⟩ :: st, g, k, hk, t, ht => by
    cases (Option.some.inj ht : a = t)
    rcases List.mem_cons.1 hk with hk | hk
    · exact Or.inl hk
    · obtain ⟨t', ht'⟩ := nearest_of_mem_markers st k hk
      exact Or.inr ((chain_to_nearest edges st g.2 k hk t' ht').snoc (g.1 t' ht'))
  | ⟨_, true⟩ :: st, g, k, hk, t, ht => chain_to_nearest edges st g.2 k hk t ht

theorem markers_fresh_append : ∀ (l rest : List Item), (∀ i ∈ l, i.fresh = true) →
    markers (l ++ rest) = markers rest
  | [], _, _ => rfl
  | ⟨a, f⟩ :: l, rest, h => by
    cases (h ⟨a, f⟩ (by simp) : f = true)
    exact markers_fresh_append l rest (fun i hi => h i (by simp [hi]))

theorem nearest_fresh_append : ∀ (l rest : List Item), (∀ i ∈ l, i.fresh = true) →
    nearest (l ++ rest) = nearest rest
  | [], _, _ => rfl
  | ⟨a, f⟩ :: l, rest, h => by
    cases (h ⟨a, f⟩ (by simp) : f = true)
    exact nearest_fresh_append l rest (fun i hi => h i (by simp [hi]))

theorem push_spec (edges visited) (k : Key) : ∀ i ∈ push edges visited k,
    i.fresh = true ∧ i.key ∈ edges k ∧ i.key ∉ visited := by
  intro i hi
  simp only [push, List.mem_map, List.mem_reverse, List.mem_filter, decide_eq_true_eq] at hi
  obtain ⟨a, ⟨h1, h2⟩, rfl⟩ := hi
  exact ⟨rfl, h1, h2⟩

theorem markers_push_append (edges visited k) (rest : List Item) :
    markers (push edges visited k ++ rest) = markers rest :=
  markers_fresh_append _ rest (fun i hi => (push_spec edges visited k i hi).1)

theorem nearest_push_append (edges visited k) (rest : List Item) :
    nearest (push edges visited k ++ rest) = nearest rest :=
  nearest_fresh_append _ rest (fun i hi => (push_spec edges visited k i hi).1)

theorem good_fresh_append (edges) (k : Key) (st : List Item) (g : Good edges (⟨k, false⟩ :: st)) :
    ∀ (P : List Item), (∀ i ∈ P, i.fresh = true ∧ i.key ∈ edges k) →
      Good edges (P ++ ⟨k, false⟩ :: st)
  | [], _ => g
  | a :: l, h => by
    refine ⟨?_, good_fresh_append edges k st g l (fun i hi => h i (by simp [hi]))⟩
    intro p hp
    change nearest (l ++ ⟨k, false⟩ :: st) = some p at hp
    rw [nearest_fresh_append l _ (fun i hi => (h i (by simp [hi])).1)] at hp
    cases (Option.some.inj hp : k = p)
    exact (h a (by simp)).2

structure SInv (edges : Key → List Key) (st : List Item) (visiting : List Key) : Prop where
  good : Good edges st
  vis : ∀ k, k ∈ visiting ↔ k ∈ markers st
  vnd : visiting.Nodup
  mnd : (markers st).Nodup

theorem SInv.pop {edges} {k : Key} {st : List Item} {vi : List Key} (inv : SInv edges (⟨k, false⟩ :: st) vi) :
    SInv edges st (vi.erase k) := by
  have mnd := List.nodup_cons.1 inv.mnd
  refine ⟨inv.good.2, fun x => ?_, inv.vnd.erase _, mnd.2⟩
  rw [inv.vnd.mem_erase_iff, inv.vis x, markers_marker, List.mem_cons]
  constructor
  · rintro ⟨h1, h2⟩; exact h2.resolve_left h1
  · intro hx; exact ⟨fun e => mnd.1 (e ▸ hx), Or.inr hx⟩

theorem SInv.expand {edges} {k : Key} {st : List Item} {vi : List Key} (inv : SInv edges (⟨k, true⟩ :: st) vi)
    (vd : List Key) (h1 : k ∉ vi) : SInv edges (push edges vd k ++ ⟨k, false⟩ :: st) (k :: vi) := by
  have hm : markers (push edges vd k ++ ⟨k, false⟩ :: st) = k :: markers st := markers_push_append ..
  refine ⟨?_, fun x => ?_, List.nodup_cons.2 ⟨h1, inv.vnd⟩, ?_⟩
  · exact good_fresh_append edges k st inv.good _ (fun i hi => ⟨(push_spec _ _ _ i hi).1, (push_spec _ _ _ i hi).2.1⟩)
  · rw [hm, List.mem_cons, List.mem_cons, inv.vis x]; rfl
  · rw [hm]; exact List.nodup_cons.2 ⟨fun h => h1 ((inv.vis k).2 h), inv.mnd⟩

theorem detectFrom_sound (edges : Key → List Key) (fuel : Nat) (s k : Key)
    (h : detectFrom edges fuel s = .cycle k) : Path edges k k := by
  have init : SInv edges [⟨s, true⟩] [] := ⟨⟨by simp [nearest], trivial⟩, by simp [markers], by simp, by simp [markers]⟩
  obtain ⟨st, vi, _, inv, hin⟩ := (dfs_invariant (P := fun st vi _ => SInv edges st vi)
    (fun _ _ _ _ inv => inv.pop) (fun _ _ _ _ _ _ inv => ⟨inv.good.2, inv.vis, inv.vnd, inv.mnd⟩)
    (fun _ _ _ vd h1 _ inv => inv.expand vd h1) fuel _ _ _ init).1 k h
  -- `k` is a marker: it reaches the nearest marker, of which the item `k` is a successor
  have hk : k ∈ markers st := (inv.vis k).1 hin
  obtain ⟨t, ht⟩ := nearest_of_mem_markers st k hk
  exact (chain_to_nearest edges st inv.good.2 k hk t ht).snoc (inv.good.1 t ht)

/-- the successors of a marker are visited or lie above it on the stack -/
def Cover (edges : Key → List Key) (visited : List Key) : List Key → List Item → Prop
  | _, [] => True
  | above, it :: st =>
    (it.fresh = false → ∀ w ∈ edges it.key, w ∈ visited ∨ w ∈ above) ∧
      Cover edges visited (it.key :: above) st

theorem cover_mono (edges) : ∀ (st : List Item) (vis vis' above above' : List Key),
    (∀ w, w ∈ vis ∨ w ∈ above → w ∈ vis' ∨ w ∈ above') →
    Cover edges vis above st → Cover edges vis' above' st
  | [], _, _, _, _, _, _ => trivial
  | it :: st, vis, vis', above, above', hm, h => by
    refine ⟨fun hf w hw => hm w (h.1 hf w hw), ?_⟩
    apply cover_mono edges st vis vis' (it.key :: above) (it.key :: above') ?_ h.2
    intro w hw
    simp only [List.mem_cons] at hw ⊢
    rcases hw with hw | hw | hw
    · exact (hm w (Or.inl hw)).imp_right Or.inr
    · exact Or.inr (Or.inl hw)
    · exact (hm w (Or.inr hw)).imp_right Or.inr

theorem cover_fresh_prefix (edges vis) : ∀ (P : List Item) (above : List Key) (rest : List Item),
    (∀ i ∈ P, i.fresh = true) →
    Cover edges vis (P.reverse.map (·.key) ++ above) rest → Cover edges vis above (P ++ rest)
  | [], _, _, _, h => by simpa using h
  | a :: P, above, rest, hf, h => by
    refine ⟨fun hfa => by simp [hf a (by simp)] at hfa, ?_⟩
    apply cover_fresh_prefix edges vis P (a.key :: above) rest (fun i hi => hf i (by simp [hi]))
    simpa using h

structure CInv (edges : Key → List Key) (s : Key) (st : List Item) (visited : List Key) : Prop where
  start : s ∈ visited ∨ s ∈ st.map (·.key)
  closed : Closed edges visited
  cover : Cover edges visited [] st

theorem CInv.drop {edges} {s : Key} {it : Item} {st : List Item} {vd vd' : List Key}
    (inv : CInv edges s (it :: st) vd) (hc : Closed edges vd') (hsub : ∀ w ∈ vd, w ∈ vd') (hk : it.key ∈ vd') :
    CInv edges s st vd' := by
  refine ⟨?_, hc, cover_mono edges st vd vd' [it.key] [] ?_ inv.cover.2⟩
  · rcases inv.start with h | h
    · exact Or.inl (hsub s h)
    · rcases List.mem_cons.1 h with h | h
      · exact Or.inl (h ▸ hk)
      · exact Or.inr h
  · intro w hw
    rcases hw with hw | hw
    · exact Or.inl (hsub w hw)
    · exact Or.inl ((List.mem_singleton.1 hw) ▸ hk)

theorem CInv.pop {edges} {s k : Key} {st : List Item} {vd : List Key} (inv : CInv edges s (⟨k, false⟩ :: st) vd) :
    CInv edges s st (k :: vd) := by
  -- all successors of `k` are visited: nothing lies above the top of the stack
  have hch : ∀ w ∈ edges k, w ∈ vd := fun w hw => (inv.cover.1 rfl w hw).resolve_right (by simp)
  exact inv.drop ⟨hch, inv.closed⟩ (fun w hw => List.mem_cons_of_mem _ hw) (List.mem_cons_self ..)

theorem CInv.expand {edges} {s k : Key} {st : List Item} {vd : List Key} (inv : CInv edges s (⟨k, true⟩ :: st) vd) :
    CInv edges s (push edges vd k ++ ⟨k, false⟩ :: st) vd := by
  refine ⟨inv.start.imp_right fun h => ?_, inv.closed, ?_⟩
  · rw [List.map_append, List.mem_append]; exact Or.inr h
  · apply cover_fresh_prefix edges vd (push edges vd k) [] _ (fun i hi => (push_spec edges vd k i hi).1)
    refine ⟨fun _ w hw => ?_, cover_mono edges st vd vd [k] _ (fun w hw => hw.imp_right ?_) inv.cover.2⟩
    · -- a successor of `k` is visited or has just been pushed
      by_cases hwv : w ∈ vd
      · exact Or.inl hwv
      · exact Or.inr (by simp [push, hw, hwv])
    · intro hw; simp [List.mem_singleton.1 hw]

/-- If the run from `s` finishes cleanly, nothing reachable from `s` lies on a cycle. -/
theorem detectFrom_complete (edges : Key → List Key) (fuel : Nat) (s : Key) (out : List Key)
    (h : detectFrom edges fuel s = .ok out) : ∀ c, RT edges s c → ¬ Path edges c c := by
  have init : CInv edges s [⟨s, true⟩] [] := ⟨Or.inr (by simp), trivial, ⟨by simp, trivial⟩⟩
  obtain ⟨_, inv⟩ := (dfs_invariant (P := fun st _ vd => CInv edges s st vd)
    (fun _ _ _ _ inv => inv.pop) (fun _ _ _ _ _ h2 inv => inv.drop inv.closed (fun _ hw => hw) h2)
    (fun _ _ _ _ _ _ inv => inv.expand) fuel _ _ _ init).2 out h
  have hs : s ∈ out := inv.start.resolve_right (by simp)
  intro c hr hc
  have hcin : c ∈ out := by
    rcases hr with rfl | p
    · exact hs
    · exact (path_iff_reach.1 p).closed (closed_edge edges out inv.closed) hs
  exact closed_acyclic edges out inv.closed c hcin (path_iff_reach.1 hc)

#print axioms detectFrom_complete
#print axioms detectFrom_sound
end Godi.Dfs
