import GodiProofs.Container.Rule
/-! What `track`, `putInstance`, `setInstance` and `createInstance` do on particular inputs. -/
namespace Godi.Container

/-- the fuel of an operation is never exhausted at its first call -/
theorem fuelFor_succ (st : State) : ∃ f, fuelFor st = f + 1 := ⟨fuelFor st - 1, by unfold fuelFor; omega⟩

theorem bumpInv_invs (st : State) (c : Nat) : (bumpInv st c).invs c = st.invs c + 1 := by simp [bumpInv]

theorem createInstance_of_args (beh : Beh) (f : Nat) (st : State) (s : Nat) (d : Desc) (hk : ∀ v, d.kind ≠ .inst v)
    {args : List Val} (ha : (buildArgs beh f st s d.deps []).2 = .ok args) :
    createInstance beh (f + 1) st s d = construct beh (buildArgs beh f st s d.deps []).1 s d args := by
  rw [createInstance_succ]
  split
  next v hv => exact absurd hv (hk v)
  · simp only [ha]

theorem track_disposables (st : State) (s : Nat) (i : Inst) (disp : Bool) (h : (st.scope s).disposed = false) :
    ((track st s (.inst i) disp).1.scope s).disposables =
      (if disp then some ((st.scope s).disposables.getD [] ++ [i]) else (st.scope s).disposables) ∧
    ((track st s (.inst i) disp).1.scope s).instances = (st.scope s).instances ∧
    (track st s (.inst i) disp).2 = .ok () := by
  unfold track
  cases disp <;> simp [h, updScope]

theorem lookup_put_self (m : List (Ident × Val)) (k : Ident) (v : Val) : lookup (cachePut m k v) k = some v := by
  simp [lookup, cachePut]

theorem lookup_put_ne (m : List (Ident × Val)) (k k' : Ident) (v : Val) (h : k' ≠ k) :
    lookup (cachePut m k v) k' = lookup m k' := by
  have hbeq : ((k == k') = false) := by simp [Ne.symm h]
  simp [lookup, cachePut, hbeq]

theorem track_instances (st : State) (s : Nat) (v : Val) (disp : Bool) :
    ((track st s v disp).1.scope s).instances = (st.scope s).instances := by
  unfold track
  split
  · split
    · split <;> simp [logClosed, logEv]
    · split <;> simp [updScope]
  · split <;> rfl

theorem putInstance_instances (st : State) (s : Nat) (k : Ident) (v : Val) :
    ((putInstance st s k v).scope s).instances = (st.scope s).instances.map (fun m => cachePut m k v) := by
  simp [putInstance, updScope]

theorem setInstance_scoped_cached (st : State) (s : Nat) (d : Desc) (v : Val) (hl : d.life = .scoped)
    (m : List (Ident × Val)) (hm : (st.scope s).instances = some m) :
    ((setInstance st s d d.ident v).1.scope s).instances = some (cachePut m d.ident v) := by
  unfold setInstance
  simp only [hl]
  rw [track_instances, putInstance_instances, hm]
  rfl

end Godi.Container
