import GodiProofs.Container.ScopedOnce
import GodiProofs.Container.Close
import GodiProofs.Container.Stable
/-!
The parts of a history keep the scoped-once invariant: `Close` and the table updates of `CreateScope`
(which log no constructor event and leave the cache of every scope that stays open alone), the
allocation of a scope (whose id no event mentions yet), and resolution in an existing scope.
-/
namespace Godi.Container

/-- what `Close` may do to the scopes: a scope that is open afterwards was open before, with the same
cache; nothing but `closed` events is logged; the registry and the scope counter are untouched -/
structure CloseFrame (st st' : State) : Prop where
  descs : st'.descs = st.descs
  nscopes : st'.nscopes = st.nscopes
  log : ∃ new, st'.log = st.log ++ new ∧ ∀ e ∈ new, ∃ o i ok, e = .closed o i ok
  openSame : ∀ x, (st'.scope x).disposed = false → (st.scope x).disposed = false ∧ (st'.scope x).instances = (st.scope x).instances

theorem CloseFrame.refl (st : State) : CloseFrame st st := ⟨rfl, rfl, log_grows_refl rfl, fun _ h => ⟨h, rfl⟩⟩

theorem CloseFrame.trans {a b c : State} (h1 : CloseFrame a b) (h2 : CloseFrame b c) : CloseFrame a c := by
  refine ⟨h2.descs.trans h1.descs, h2.nscopes.trans h1.nscopes, log_grows_trans h1.log h2.log, fun x hx => ?_⟩
  obtain ⟨hb, ib⟩ := h2.openSame x hx
  obtain ⟨ha, ia⟩ := h1.openSame x hb
  exact ⟨ha, ib.trans ia⟩

theorem closeFrame_updScope (st : State) (s : Nat) (f : ScopeSt → ScopeSt)
    (h : (f (st.scope s)).disposed = false →
      (st.scope s).disposed = false ∧ (f (st.scope s)).instances = (st.scope s).instances) :
    CloseFrame st (updScope st s f) := by
  refine ⟨rfl, rfl, log_grows_refl rfl, ?_⟩
  intro x hx
  by_cases hxs : x = s
  · subst hxs; simp only [updScope, ↓reduceIte] at hx ⊢; exact h hx
  · simp only [updScope, hxs, ↓reduceIte] at hx ⊢; exact ⟨hx, by trivial⟩

theorem closeFrame_closeLoop (beh : Beh) (owner : Nat) (l : List Inst) (st : State) :
    CloseFrame st (closeLoop beh owner st l).1 := by
  rw [closeLoop_eq]
  exact ⟨rfl, rfl, ⟨_, rfl, fun e he => by obtain ⟨i, _, rfl⟩ := List.mem_map.1 he; exact ⟨_, _, _, rfl⟩⟩, fun x hx => ⟨hx, rfl⟩⟩

theorem closeFrame_detach (st : State) (s : Nat) : CloseFrame st (detach st s) := by
  unfold detach
  have h1 : CloseFrame st (match (st.scope s).parent with
      | some p => updScope st p (fun sc => { sc with children := sc.children.map (fun (l : List Nat) => List.erase l s) })
      | none => st) := by
    split
    · exact closeFrame_updScope st _ _ (fun h => ⟨h, rfl⟩)
    · exact CloseFrame.refl st
  exact h1.trans ⟨rfl, rfl, ⟨[], (List.append_nil _).symm, by simp⟩, fun _ h => ⟨h, rfl⟩⟩

theorem closeFrame_addChild (st : State) (p s : Nat) : CloseFrame st (addChild st p s) :=
  closeFrame_updScope st p _ (fun h => ⟨h, rfl⟩)

theorem closeFrame_addProvScope (st : State) (s : Nat) : CloseFrame st (addProvScope st s) :=
  ⟨rfl, rfl, ⟨[], (List.append_nil _).symm, by simp⟩, fun _ h => ⟨h, rfl⟩⟩

/-- the cache is dropped only once the scope is marked disposed -/
def closeFrameRule (beh : Beh) : CloseRule beh where
  I := fun _ => True
  R := CloseFrame
  refl := fun _ => .refl _
  trans := CloseFrame.trans
  inv := fun _ _ => trivial
  enter := fun s _ _ =>
    (closeFrame_updScope _ s _ (fun h => by simp at h)).trans (closeFrame_updScope _ s _ (fun h => ⟨h, rfl⟩))
  drain := fun s _ _ => (closeFrame_updScope _ s _ (fun h => ⟨h, rfl⟩)).trans (closeFrame_closeLoop beh s _ _)
  leave := fun {st} s _ hd => (closeFrame_detach st s).trans
    (closeFrame_updScope _ s _ (fun h => by rw [show _ = true from detach_dispMono st s s hd] at h; cases h))

theorem closeFrame_close (beh : Beh) (order : List Nat → List Nat) : ∀ fuel,
    (∀ st s, CloseFrame st (closeScope beh order fuel st s).1) ∧
    (∀ st l, CloseFrame st (closeChildren beh order fuel st l).1) :=
  fun fuel => ⟨fun st s => (((closeFrameRule beh).close order fuel).1 st s trivial).1,
    fun st l => (((closeFrameRule beh).close order fuel).2 st l trivial).1⟩

theorem countIn_closed (new : List Event) (h : ∀ e ∈ new, ∃ o i ok, e = .closed o i ok) (c s : Nat) : countIn new c s = 0 := by
  unfold countIn
  rw [List.countP_eq_zero]
  intro e he
  obtain ⟨o, i, ok, rfl⟩ := h e he
  simp

theorem SInv.close {descs : List Desc} {st st' : State} (inv : SInv descs st) (h : CloseFrame st st') : SInv descs st' := by
  obtain ⟨new, hlog, hnew⟩ := h.log
  refine inv.same h.descs (Nat.le_of_eq h.nscopes.symm) (fun c s => ?_) (fun x hx => ?_)
  · rw [hlog, countIn_append, countIn_closed new hnew]
    rfl
  · exact inv.kept (h.openSame x hx).1 (h.openSame x hx).2

/-- allocating a fresh scope keeps the invariant: its id was never used by an event -/
theorem sinv_allocScope {descs : List Desc} {st : State} (inv : SInv descs st) (parent : Option Nat) (ctx : Nat) :
    SInv descs (allocScope st parent ctx) := by
  refine inv.same rfl (Nat.le_succ _) (fun _ _ => rfl) (fun x hx => ?_)
  by_cases hs : x = st.nscopes
  · subst hs
    exact ⟨⟨[], by simp [allocScope]⟩, .inl (Nat.le_refl _)⟩
  · have e : (allocScope st parent ctx).scope x = st.scope x := by simp [allocScope, hs]
    exact inv.kept (e ▸ hx) (by rw [e])

/-- a bound above every rank of the registry -/
def rankBound (descs : List Desc) (rank : Nat → Nat) : Nat := (descs.map (fun d => rank d.ctor)).foldr max 0 + 1

theorem rank_lt_bound (descs : List Desc) (rank : Nat → Nat) (d : Desc) (hd : d ∈ descs) :
    rank d.ctor < rankBound descs rank := by
  unfold rankBound
  have : ∀ (l : List Nat) (x : Nat), x ∈ l → x ≤ l.foldr max 0 := by
    intro l
    induction l with
    | nil => intro x hx; simp at hx
    | cons a rest ih =>
      intro x hx
      simp only [List.foldr_cons]
      rcases List.mem_cons.1 hx with rfl | hx
      · exact Nat.le_max_left _ _
      · exact Nat.le_trans (ih x hx) (Nat.le_max_right _ _)
  have := this (descs.map (fun d => rank d.ctor)) (rank d.ctor) (List.mem_map.2 ⟨d, hd, rfl⟩)
  omega

theorem sinv_scopeGet (beh : Beh) (descs : List Desc) (rank : Nat → Nat) (cfg : Cfg descs rank)
    (st : State) (inv : SInv descs st) (s ty key : Nat) (hs : s < st.nscopes) :
    SInv descs (scopeGet beh st s ty key).1 := by
  by_cases hd : (st.scope s).disposed = true
  · unfold scopeGet fuelFor resolve; simp [hd]; exact inv
  · have hd' : (st.scope s).disposed = false := by simpa using hd
    exact ((scopedOnce beh descs rank cfg _).1 st s ty key (rankBound descs rank) inv
      ⟨hd', inv.openOK s hd'⟩ hs (fun t ht => rank_lt_bound descs rank t (findService_mem ht))).inv

theorem sinv_scopeGetGroup (beh : Beh) (descs : List Desc) (rank : Nat → Nat) (cfg : Cfg descs rank)
    (st : State) (inv : SInv descs st) (s ty grp : Nat) (hs : s < st.nscopes) :
    SInv descs (scopeGetGroup beh st s ty grp).1 := by
  by_cases hd : (st.scope s).disposed = true
  · unfold scopeGetGroup fuelFor getGroup; simp [hd]; exact inv
  · have hd' : (st.scope s).disposed = false := by simpa using hd
    exact ((scopedOnce beh descs rank cfg _).2.2.1 st s ty grp (rankBound descs rank) inv
      ⟨hd', inv.openOK s hd'⟩ hs (fun t ht => rank_lt_bound descs rank t (groupMembers_mem ht))).inv

end Godi.Container
