import GodiProofs.Container.RankOfVerdict
/-!
# Resolution terminates

Go's `resolve → createInstance → buildArguments → resolve` recursion has no guard; the model runs it on
fuel and reports `Layer.fuel` when the fuel runs out. This file proves that on every registry with a
rank (i.e. every registry that passes Build's cycle check, `RankOfVerdict.lean`) the recursion is
*settled*: from an explicit fuel bound on, more fuel changes neither the resulting state nor the
answer, and the answer never contains `Layer.fuel`. Hence the unguarded Go recursion terminates, with
the result the model computes, for every state, scope, behaviour of the constructors and request.
-/
namespace Godi.Container

/-- the error chain (if any) does not contain the layer `bad` -/
def avoids {α} (bad : Layer) : Except Err α → Bool
  | .ok _ => true
  | .error e => !e.contains bad

@[simp] theorem avoids_ok {α} (bad : Layer) (v : α) : avoids bad (.ok v : Except Err α) = true := rfl

theorem avoids_cons {α β} (bad l : Layer) (e : Err) (hl : l ≠ bad) (h : avoids bad (.error e : Except Err β) = true) :
    avoids bad (.error (l :: e) : Except Err α) = true := by
  unfold avoids at *
  simp only [List.contains_cons, Bool.not_eq_true', Bool.or_eq_false_iff, beq_eq_false_iff_ne, ne_eq] at *
  exact ⟨fun h' => hl h'.symm, h⟩

theorem avoids_single {α} (bad l : Layer) (hl : l ≠ bad) : avoids bad (.error [l] : Except Err α) = true :=
  avoids_cons (β := α) bad l [] hl rfl

/-- `bad` is none of the layers that storing, the constructor call and the lifetime switch produce: a chain
that contains it got it from `resolve` or from running out of fuel. So for `fuel` and `notFound`
(`foreign_fuel`, `foreign_notFound`). -/
structure Foreign (bad : Layer) : Prop where
  sd : Layer.scopeDisposed ≠ bad
  inv : Layer.invocation ≠ bad
  pan : Layer.panicL ≠ bad
  val : Layer.validation ≠ bad
  inj : ∀ c, Layer.injected c ≠ bad
  res : Layer.resolution ≠ bad
  sni : Layer.singletonNotInit ≠ bad

theorem foreign_fuel : Foreign .fuel :=
  { sd := by decide, inv := by decide, pan := by decide, val := by decide, inj := (fun c h => by cases h), res := by decide, sni := by decide }
theorem foreign_notFound : Foreign .notFound :=
  { sd := by decide, inv := by decide, pan := by decide, val := by decide, inj := (fun c h => by cases h), res := by decide, sni := by decide }

abbrev noFuel {α} (r : Except Err α) : Bool := avoids Layer.fuel r

theorem noFuel_cons {α β} (l : Layer) (e : Err) (hl : l ≠ .fuel) (h : noFuel (.error e : Except Err β) = true) :
    noFuel (.error (l :: e) : Except Err α) = true := avoids_cons _ l e hl h

/-! ### one level of the recursion

What each function does with the answers of the calls it makes, the calls themselves left as they are. -/

theorem resolve_succ (beh : Beh) (st : State) (s ty key : Nat) :
    (∃ d, findService st.descs ty key = some d ∧ ∀ f, resolve beh (f + 1) st s ty key = resolveDesc beh f st s d) ∨
    ∃ r, (∀ f, resolve beh (f + 1) st s ty key = (st, r)) ∧
      ((r = .error [.scopeDisposed] ∧ (st.scope s).disposed = true) ∨ ((∃ v, r = .ok v) ∧ key = 0 ∧ ty < 3) ∨
       (r = .error [.resolution, .notFound] ∧ findService st.descs ty key = none ∧ ¬(key = 0 ∧ ty < 3))) := by
  by_cases hd : (st.scope s).disposed = true
  · exact .inr ⟨_, fun f => by unfold resolve; rw [if_pos hd], .inl ⟨rfl, hd⟩⟩
  by_cases h0 : key = 0 ∧ ty = tyCtx
  · exact .inr ⟨_, fun f => by unfold resolve; rw [if_neg hd, if_pos h0], .inr (.inl ⟨⟨_, rfl⟩, h0.1, by rw [h0.2]; decide⟩)⟩
  by_cases h1 : key = 0 ∧ ty = tyProvider
  · exact .inr ⟨_, fun f => by unfold resolve; rw [if_neg hd, if_neg h0, if_pos h1], .inr (.inl ⟨⟨_, rfl⟩, h1.1, by rw [h1.2]; decide⟩)⟩
  by_cases h2 : key = 0 ∧ ty = tyScope
  · exact .inr ⟨_, fun f => by unfold resolve; rw [if_neg hd, if_neg h0, if_neg h1, if_pos h2],
      .inr (.inl ⟨⟨_, rfl⟩, h2.1, by rw [h2.2]; decide⟩)⟩
  have hb : ¬(key = 0 ∧ ty < 3) := by
    intro ⟨hk, ht⟩
    have : ty = 0 ∨ ty = 1 ∨ ty = 2 := by omega
    rcases this with h | h | h
    · exact h0 ⟨hk, h⟩
    · exact h1 ⟨hk, h⟩
    · exact h2 ⟨hk, h⟩
  cases hf : findService st.descs ty key with
  | none =>
    exact .inr ⟨_, fun f => by unfold resolve; rw [if_neg hd, if_neg h0, if_neg h1, if_neg h2, hf], .inr (.inr ⟨rfl, rfl, hb⟩)⟩
  | some d =>
    exact .inl ⟨d, rfl, fun f => by unfold resolve; rw [if_neg hd, if_neg h0, if_neg h1, if_neg h2, hf]⟩

theorem resolveDesc_avoids {bad : Layer} (F : Foreign bad) (beh : Beh) (f : Nat) (st : State) (s : Nat) (d : Desc)
    (h : avoids bad (createInstance beh f st s d).2 = true) : avoids bad (resolveDesc beh (f + 1) st s d).2 = true := by
  unfold resolveDesc
  split
  · split
    · exact avoids_single _ _ F.val
    · rfl
    · exact avoids_cons (β := Val) _ _ _ F.res (avoids_single _ _ F.sni)
  · split
    · exact avoids_single _ _ F.val
    · rfl
    · exact h
  · exact h

/-- `resolveMembers` on a non-empty list: `r` is the first member's answer, `k` the rest of the loop -/
def membersStep (r : State × Except Err Val) (k : List Inst → State × Except Err Val) (acc : List Inst) :
    State × Except Err Val :=
  match r.2 with
  | .ok (.inst i) => k (acc ++ [i])
  | .ok _ => k acc
  | .error e => (r.1, .error (.resolution :: e))

theorem resolveMembers_cons (beh : Beh) (f : Nat) (st : State) (s : Nat) (d : Desc) (ds : List Desc) (acc : List Inst) :
    resolveMembers beh (f + 1) st s (d :: ds) acc =
      membersStep (resolveDesc beh f st s d) (fun acc' => resolveMembers beh f (resolveDesc beh f st s d).1 s ds acc') acc := by
  conv => lhs; unfold resolveMembers
  rfl

theorem membersStep_of {P : Except Err Val → Prop} (hres : ∀ e, P (.error e) → P (.error (.resolution :: e)))
    (r : State × Except Err Val) (k : List Inst → State × Except Err Val) (acc : List Inst)
    (hr : P r.2) (h : ∀ acc', P (k acc').2) : P (membersStep r k acc).2 := by
  unfold membersStep
  split
  · exact h _
  · exact h _
  next e he => rw [he] at hr; exact hres e hr

theorem membersStep_avoids {bad : Layer} (F : Foreign bad) (r : State × Except Err Val)
    (k : List Inst → State × Except Err Val) (acc : List Inst)
    (hr : avoids bad r.2 = true) (h : ∀ acc', avoids bad (k acc').2 = true) : avoids bad (membersStep r k acc).2 = true :=
  membersStep_of (P := fun x => avoids bad x = true) (fun e => avoids_cons _ _ e F.res) r k acc hr h

/-- `buildArgs` on a non-empty list: `r` is the answer to the first dependency, `k` the rest of the loop -/
def argsStep (dep : Dep) (r : State × Except Err Val) (k : List Val → State × Except Err (List Val)) (acc : List Val) :
    State × Except Err (List Val) :=
  match r.2 with
  | .ok v => k (acc ++ [v])
  | .error e => if dep.optional && !isConstruction e then k (acc ++ [.zero]) else (r.1, .error e)

theorem buildArgs_cons (beh : Beh) (f : Nat) (st : State) (s : Nat) (dep : Dep) (deps : List Dep) (acc : List Val) :
    buildArgs beh (f + 1) st s (dep :: deps) acc =
      argsStep dep (if dep.grp != 0 then getGroup beh f st s dep.ty dep.grp else resolve beh f st s dep.ty dep.key)
        (fun acc' => buildArgs beh f
          (if dep.grp != 0 then getGroup beh f st s dep.ty dep.grp else resolve beh f st s dep.ty dep.key).1 s deps acc') acc := by
  conv => lhs; unfold buildArgs
  rfl

theorem argsStep_of {P : Except Err Val → Prop} {Q : Except Err (List Val) → Prop} (hPQ : ∀ e, P (.error e) → Q (.error e))
    (dep : Dep) (r : State × Except Err Val) (k : List Val → State × Except Err (List Val)) (acc : List Val)
    (hr : P r.2 ∨ (dep.optional = true ∧ ∃ e, r.2 = .error e ∧ isConstruction e = false))
    (h : ∀ acc', Q (k acc').2) : Q (argsStep dep r k acc).2 := by
  unfold argsStep
  split
  · exact h _
  next e he =>
    split
    · exact h _
    next hns =>
      rcases hr with hr | ⟨ho, e', he', hc⟩
      · rw [he] at hr; exact hPQ e hr
      · rw [he] at he'; cases he'
        simp [ho, hc] at hns

theorem argsStep_avoids (bad : Layer) (dep : Dep) (r : State × Except Err Val)
    (k : List Val → State × Except Err (List Val)) (acc : List Val)
    (hr : avoids bad r.2 = true ∨ (dep.optional = true ∧ ∃ e, r.2 = .error e ∧ isConstruction e = false))
    (h : ∀ acc', avoids bad (k acc').2 = true) :
    avoids bad (argsStep dep r k acc).2 = true :=
  argsStep_of (P := fun x => avoids bad x = true) (Q := fun x => avoids bad x = true) (fun _ h => h) dep r k acc hr h

/-- what storing answers: "scope disposed", in a disposed scope, is the one way it fails -/
def StoreAnswer (st : State) (s : Nat) (r : Except Err Unit) : Prop :=
  r = .ok () ∨ (r = .error [.scopeDisposed] ∧ (st.scope s).disposed = true)

theorem StoreAnswer.avoids {bad : Layer} (F : Foreign bad) {st : State} {s : Nat} {r : Except Err Unit}
    (h : StoreAnswer st s r) : avoids bad r = true := by
  rcases h with rfl | ⟨rfl, _⟩
  · rfl
  · exact avoids_single _ _ F.sd

theorem StoreAnswer.ok {st : State} {s : Nat} {r : Except Err Unit} (h : StoreAnswer st s r)
    (ho : (st.scope s).disposed = false) : r = .ok () :=
  h.resolve_right fun hd => by rw [ho] at hd; cases hd.2

theorem track_answer (st : State) (s : Nat) (v : Val) (disp : Bool) : StoreAnswer st s (track st s v disp).2 := by
  unfold track
  split
  · split
    next h => exact .inr ⟨rfl, h⟩
    · split <;> exact .inl rfl
  · split
    next h => exact .inr ⟨rfl, h⟩
    · exact .inl rfl

/-- storing neither closes nor reopens a scope -/
theorem disposedKeeps (s : Nat) (b : Bool) : StoreKeeps (fun st => (st.scope s).disposed = b) := by
  have upd : ∀ (st : State) x (f : ScopeSt → ScopeSt), (∀ sc, (f sc).disposed = sc.disposed) → (st.scope s).disposed = b →
      ((updScope st x f).scope s).disposed = b := by
    intro st x f hf h
    show (if s = x then f (st.scope x) else st.scope s).disposed = b
    split
    next e => rw [hf, ← e]; exact h
    · exact h
  exact ⟨fun _ _ h => h, fun x _ h => upd _ x _ (fun _ => rfl) h, fun x _ _ h => upd _ x _ (fun _ => rfl) h,
    fun _ _ h => h, fun _ h => h⟩

theorem setInstance_answer (st : State) (s : Nat) (d : Desc) (k : Ident) (v : Val) :
    StoreAnswer st s (setInstance st s d k v).2 := by
  unfold setInstance
  split
  · split
    · split <;> exact .inl rfl
    · exact .inl rfl
  · exact (track_answer _ s v d.disp).imp_right fun h => ⟨h.1, ((disposedKeeps s _).cached s k v rfl).symm.trans h.2⟩
  · exact track_answer st s v d.disp

theorem storeOuts_answer (s : Nat) : ∀ (sibs : List Desc) (outs : List Inst) (st : State),
    StoreAnswer st s (storeOuts st s sibs outs).2
  | [], _, _ => by unfold storeOuts; exact .inl rfl
  | _ :: _, [], _ => by unfold storeOuts; exact .inl rfl
  | d :: ds, o :: os, st => by
    unfold storeOuts
    dsimp only
    have h1 := setInstance_answer st s d d.ident (.inst o)
    have h2 := storeOuts_answer s ds os (setInstance st s d d.ident (.inst o)).1
    have hd : ((setInstance st s d d.ident (.inst o)).1.scope s).disposed = (st.scope s).disposed :=
      (disposedKeeps s _).setInstance s d d.ident (.inst o) rfl
    rcases h2 with h2 | ⟨h2, hd2⟩
    · rw [h2]
      rcases h1 with h1 | ⟨h1, hd1⟩
      · rw [h1]; exact .inl rfl
      · rw [h1]; exact .inr ⟨rfl, hd1⟩
    · rw [h2]; exact .inr ⟨rfl, hd ▸ hd2⟩

theorem okOr_avoids {α} (bad : Layer) (r : Except Err Unit) (v : α) (h : avoids bad r = true) : avoids bad (okOr r v) = true := by
  unfold okOr
  split
  · rfl
  · exact h

theorem ite_avoids {α} (bad : Layer) (c : Prop) [Decidable c] (a b : Except Err α) (ha : avoids bad a = true)
    (hb : avoids bad b = true) : avoids bad (if c then a else b) = true := by split <;> assumption

theorem provideValue_answer (st : State) (s : Nat) (d : Desc) (v : Inst) :
    (provideValue st s d v).2 = okOr (setInstance st s d d.ident (.inst v)).2 (.inst v) := by
  unfold provideValue okOr
  dsimp only
  split
  next h => rw [h]
  next h => rw [h]

theorem provideValue_avoids {bad : Layer} (F : Foreign bad) (st : State) (s : Nat) (d : Desc) (v : Inst) :
    avoids bad (provideValue st s d v).2 = true := by
  rw [provideValue_answer]
  exact okOr_avoids _ _ _ ((setInstance_answer ..).avoids F)

theorem construct_avoids {bad : Layer} (F : Foreign bad) (beh : Beh) (st : State) (s : Nat) (d : Desc) (args : List Val) :
    avoids bad (construct beh st s d args).2 = true := by
  unfold construct
  dsimp only
  split
  · exact avoids_cons (β := Val) _ _ _ F.inv (avoids_single _ _ (F.inj _))
  · exact avoids_single _ _ F.pan
  · exact avoids_single _ _ F.val
  · split
    · exact okOr_avoids _ _ _ ((setInstance_answer ..).avoids F)
    · generalize hso : storeOuts _ _ _ _ = so
      have hn : avoids bad so.2 = true := hso ▸ (storeOuts_answer ..).avoids F
      apply ite_avoids
      · exact okOr_avoids _ _ _ hn
      · split
        next e he => rw [he] at hn; exact hn
        · exact avoids_single _ _ F.val
    · exact provideValue_avoids F _ s d _

theorem createInstance_avoids {bad : Layer} (F : Foreign bad) (beh : Beh) (f : Nat) (st : State) (s : Nat) (d : Desc)
    (h : avoids bad (buildArgs beh f st s d.deps []).2 = true) : avoids bad (createInstance beh (f + 1) st s d).2 = true := by
  rw [createInstance_succ]
  split
  · exact provideValue_avoids F st s d _
  · dsimp only
    split
    next e he => rw [he] at h; exact avoids_cons _ _ _ F.inv h
    · exact construct_avoids F beh _ s d _

theorem createInstance_congr (beh : Beh) (f g : Nat) (st : State) (s : Nat) (d : Desc)
    (h : buildArgs beh f st s d.deps [] = buildArgs beh g st s d.deps []) :
    createInstance beh (f + 1) st s d = createInstance beh (g + 1) st s d := by
  rw [createInstance_succ, createInstance_succ, h]

/-! ### settled computations -/

/-- `X` (a computation indexed by its fuel) is settled at `K`: every larger fuel gives the same state and
answer, and that answer is not "out of fuel" -/
def Settled {α} (X : Nat → State × Except Err α) (K : Nat) : Prop :=
  (∀ f, K ≤ f → X f = X K) ∧ noFuel (X K).2 = true

theorem Settled.mono {α} {X : Nat → State × Except Err α} {K K' : Nat} (h : Settled X K) (hk : K ≤ K') : Settled X K' :=
  ⟨fun f hf => (h.1 f (Nat.le_trans hk hf)).trans (h.1 K' hk).symm, by rw [h.1 K' hk]; exact h.2⟩

theorem Settled.of_succ {α} (X : Nat → State × Except Err α) (K : Nat)
    (h : ∀ f, K ≤ f → X (f + 1) = X (K + 1)) (hn : noFuel (X (K + 1)).2 = true) : Settled X (K + 1) := by
  refine ⟨?_, hn⟩
  intro f hf
  obtain ⟨f', rfl⟩ : ∃ f', f = f' + 1 := ⟨f - 1, by omega⟩
  exact h f' (by omega)

theorem Settled.succ {α} {X Y : Nat → State × Except Err α} {K : Nat} (h : Settled Y K) (e : ∀ f, X (f + 1) = Y f) :
    Settled X (K + 1) :=
  Settled.of_succ X K (fun f hf => by rw [e, e, h.1 f hf]) (by rw [e]; exact h.2)

theorem Settled.const {α} (c : State × Except Err α) (h : noFuel c.2 = true) (K : Nat) : Settled (fun _ => c) K :=
  ⟨fun _ _ => rfl, h⟩

/-- a settled call `D` followed, through a step `S` such as `membersStep`, by a continuation `M` that is
settled in the state `D` ends in: settled at the later of the two bounds -/
theorem Settled.step {α β γ} {S : State × Except Err β → (γ → State × Except Err α) → State × Except Err α}
    (nf : ∀ r k, noFuel r.2 = true → (∀ a, noFuel (k a).2 = true) → noFuel (S r k).2 = true)
    {D : Nat → State × Except Err β} {M : Nat → State → γ → State × Except Err α} {K1 K2 : Nat} (hk : K1 ≤ K2)
    (hD : Settled D K1) (hM : ∀ a, Settled (fun f => M f (D K1).1 a) K2) :
    Settled (fun f => S (D f) (fun a => M f (D f).1 a)) K2 := by
  have eD : ∀ f, K2 ≤ f → D f = D K1 := fun f hf => hD.1 f (Nat.le_trans hk hf)
  refine ⟨fun f hf => ?_, ?_⟩
  · show S (D f) (fun a => M f (D f).1 a) = S (D K2) (fun a => M K2 (D K2).1 a)
    rw [eD f hf, eD K2 (Nat.le_refl _)]
    exact congrArg (S _) (funext fun a => (hM a).1 f hf)
  · show noFuel (S (D K2) (fun a => M K2 (D K2).1 a)).2 = true
    rw [eD K2 (Nat.le_refl _)]
    exact nf _ _ hD.2 (fun a => (hM a).2)

/-! ### the level of a rank

From `SettledBelow R K` the calls that lead to constructions of rank below `R` are settled a few units after `K`:
one unit for each function on the way, one per group member, one per argument. -/

section level
variable (beh : Beh) (descs : List Desc) (rank : Nat → Nat)

/-- construction of every registration of rank below `R`, in every state over `descs` and every scope, is
settled at `K` -/
def SettledBelow (R K : Nat) : Prop :=
  ∀ t ∈ descs, rank t.ctor < R → ∀ st s, st.descs = descs → Settled (fun f => createInstance beh f st s t) K

theorem settled_resolveDesc {R K : Nat} (H : SettledBelow beh descs rank R K) (t : Desc) (ht : t ∈ descs) (hr : rank t.ctor < R)
    (st : State) (s : Nat) (hst : st.descs = descs) : Settled (fun f => resolveDesc beh f st s t) (K + 1) := by
  have hc := H t ht hr st s hst
  apply Settled.of_succ
  · intro f hf
    have e : createInstance beh f st s t = createInstance beh K st s t := hc.1 f hf
    show resolveDesc beh (f + 1) st s t = resolveDesc beh (K + 1) st s t
    unfold resolveDesc
    rw [e]
  · exact resolveDesc_avoids foreign_fuel beh K st s t hc.2

theorem settled_resolve {R K : Nat} (H : SettledBelow beh descs rank R K) (st : State) (s ty key : Nat) (hst : st.descs = descs)
    (hp : ∀ t, findService descs ty key = some t → rank t.ctor < R) :
    Settled (fun f => resolve beh f st s ty key) (K + 1 + 1) := by
  rcases resolve_succ beh st s ty key with ⟨d, hd, e⟩ | ⟨r, e, hr⟩
  · rw [hst] at hd
    exact (settled_resolveDesc beh descs rank H d (findService_mem hd) (hp d hd) st s hst).succ e
  · refine (Settled.const (st, r) ?_ (K + 1)).succ e
    rcases hr with ⟨rfl, _⟩ | ⟨⟨_, rfl⟩, _⟩ | ⟨rfl, _⟩ <;> rfl

theorem settled_members {R K : Nat} (H : SettledBelow beh descs rank R K) (s : Nat) : ∀ (ms : List Desc),
    (∀ m ∈ ms, m ∈ descs ∧ rank m.ctor < R) → ∀ (st : State) (acc : List Inst), st.descs = descs →
    Settled (fun f => resolveMembers beh f st s ms acc) (K + 1 + ms.length + 1) := by
  intro ms
  induction ms with
  | nil =>
    intro _ st acc _
    exact (Settled.const (st, .ok (.group acc)) rfl _).succ (fun f => by unfold resolveMembers; rfl)
  | cons d rest ih =>
    intro hms st acc hst
    have hd := hms d (List.mem_cons_self ..)
    have sd := settled_resolveDesc beh descs rank H d hd.1 hd.2 st s hst
    have hst1 : (resolveDesc beh (K + 1) st s d).1.descs = descs := by rw [(descs_frame beh _).2.1]; exact hst
    have := Settled.step (S := fun r k => membersStep r k acc) (K2 := K + 1 + rest.length + 1)
      (M := fun f st' acc' => resolveMembers beh f st' s rest acc')
      (fun r k => membersStep_avoids foreign_fuel r k acc) (by omega) sd
      (fun acc' => ih (fun m hm => hms m (List.mem_cons_of_mem _ hm)) _ acc' hst1)
    exact (this.succ (fun f => resolveMembers_cons beh f st s d rest acc)).mono (by simp only [List.length_cons]; omega)

theorem settled_getGroup {R K : Nat} (H : SettledBelow beh descs rank R K) (st : State) (s ty grp : Nat) (hst : st.descs = descs)
    (hp : ∀ m ∈ groupMembers descs ty grp, rank m.ctor < R) :
    Settled (fun f => getGroup beh f st s ty grp) (K + 1 + descs.length + 1 + 1) := by
  by_cases hd : (st.scope s).disposed = true
  · exact (Settled.const (st, .error [.scopeDisposed]) rfl _).succ (fun f => by unfold getGroup; rw [if_pos hd])
  · have hlen : (groupMembers descs ty grp).length ≤ descs.length := List.length_filter_le _ _
    have sm := (settled_members beh descs rank H s (groupMembers descs ty grp)
      (fun m hm => ⟨groupMembers_mem hm, hp m hm⟩) st [] hst).mono (K' := K + 1 + descs.length + 1) (by omega)
    exact sm.succ (fun f => by unfold getGroup; rw [if_neg hd, hst])

def DepsBelow (R : Nat) (deps : List Dep) : Prop := ∀ dep ∈ deps, ∀ t, Provides descs dep t → rank t.ctor < R

theorem settled_dep {R K : Nat} (H : SettledBelow beh descs rank R K) (st : State) (s : Nat) (hst : st.descs = descs) (dep : Dep)
    (hp : ∀ t, Provides descs dep t → rank t.ctor < R) :
    Settled (fun f => if dep.grp != 0 then getGroup beh f st s dep.ty dep.grp else resolve beh f st s dep.ty dep.key)
      (K + 1 + descs.length + 1 + 1) := by
  split
  next hg => exact settled_getGroup beh descs rank H st s dep.ty dep.grp hst (fun m hm => hp m (Or.inl ⟨by simpa using hg, hm⟩))
  next hg =>
    have hg' : dep.grp = 0 := by simpa using hg
    exact (settled_resolve beh descs rank H st s dep.ty dep.key hst (fun t ht => hp t (Or.inr ⟨hg', ht⟩))).mono (by omega)

theorem settled_buildArgs {R K : Nat} (H : SettledBelow beh descs rank R K) (s : Nat) : ∀ (deps : List Dep),
    DepsBelow descs rank R deps → ∀ (st : State) (acc : List Val), st.descs = descs →
    Settled (fun f => buildArgs beh f st s deps acc) (K + 1 + descs.length + 1 + 1 + deps.length + 1) := by
  intro deps
  induction deps with
  | nil =>
    intro _ st acc _
    exact (Settled.const (st, .ok acc) rfl _).succ (fun f => by unfold buildArgs; rfl)
  | cons dep rest ih =>
    intro hdb st acc hst
    have sd := settled_dep beh descs rank H st s hst dep (hdb dep (List.mem_cons_self ..))
    generalize K + 1 + descs.length + 1 + 1 = K0 at sd ih ⊢
    have hst1 : (if dep.grp != 0 then getGroup beh K0 st s dep.ty dep.grp else resolve beh K0 st s dep.ty dep.key).1.descs
        = descs := by
      split
      · rw [(descs_frame beh _).2.2.1]; exact hst
      · rw [(descs_frame beh _).1]; exact hst
    have := Settled.step (S := fun r k => argsStep dep r k acc) (K2 := K0 + rest.length + 1)
      (M := fun f st' acc' => buildArgs beh f st' s rest acc')
      (fun r k hr => argsStep_avoids _ dep r k acc (Or.inl hr)) (by omega) sd
      (fun acc' => ih (fun x hx => hdb x (List.mem_cons_of_mem _ hx)) _ acc' hst1)
    exact (this.succ (fun f => buildArgs_cons beh f st s dep rest acc)).mono (by simp only [List.length_cons]; omega)

theorem settled_createInstance {R K : Nat} (H : SettledBelow beh descs rank R K) (st : State) (s : Nat) (hst : st.descs = descs)
    (d : Desc) (hdb : DepsBelow descs rank R d.deps) :
    Settled (fun f => createInstance beh f st s d) (K + 1 + descs.length + 1 + 1 + d.deps.length + 1 + 1) := by
  have sa := settled_buildArgs beh descs rank H s d.deps hdb st [] hst
  apply Settled.of_succ
  · intro f hf
    exact createInstance_congr beh f _ st s d (sa.1 f hf)
  · exact createInstance_avoids foreign_fuel beh _ st s d sa.2

theorem le_maxDeps : ∀ (descs : List Desc) (d : Desc), d ∈ descs → d.deps.length ≤ maxDeps descs := by
  intro descs
  induction descs with
  | nil => intro d hd; cases hd
  | cons x rest ih =>
    intro d hd
    unfold maxDeps
    simp only [List.map_cons, List.foldr_cons]
    rcases List.mem_cons.1 hd with rfl | h
    · exact Nat.le_max_left _ _
    · exact Nat.le_trans (ih d h) (Nat.le_max_right _ _)

/-- Fuel one level of the dependency nesting can spend (`settled_createInstance`): a unit each for
`resolveDesc`, the end of the member loop, `getGroup` (the way through `resolve` is shorter), the end of the argument
loop and `createInstance` — five, rounded up to the 6 of `fuelFor` —, one per group member (at most `descs.length`) and one per
argument (at most `maxDeps`). -/
def levelCost (descs : List Desc) : Nat := descs.length + maxDeps descs + 6

theorem settled_by_rank (hr : Ranked descs rank) : ∀ R, SettledBelow beh descs rank R (R * levelCost descs) := by
  intro R
  induction R with
  | zero => intro t _ h; exact absurd h (Nat.not_lt_zero _)
  | succ R ih =>
    intro t ht hrk st s hst
    have hdb : DepsBelow descs rank R t.deps := by
      intro dep hdep p hp
      have := hr t ht dep hdep p hp
      omega
    apply (settled_createInstance beh descs rank ih st s hst t hdb).mono
    have := le_maxDeps descs t ht
    unfold levelCost
    rw [Nat.succ_mul]
    omega

end level

/-! ### a rank bounded by the number of registrations, and the model's own fuel -/

/-- the rank, renumbered: how many registrations have a constructor of smaller rank. At most `descs.length`,
so the nesting is at most `descs.length + 1` levels deep whatever rank one starts from. -/
def normRank (descs : List Desc) (rank : Nat → Nat) (c : Nat) : Nat :=
  descs.countP (fun d => decide (rank d.ctor < rank c))

theorem normRank_le (descs : List Desc) (rank : Nat → Nat) (c : Nat) : normRank descs rank c ≤ descs.length :=
  List.countP_le_length

theorem ranked_norm {descs : List Desc} {rank : Nat → Nat} (hr : Ranked descs rank) : Ranked descs (normRank descs rank) := by
  intro d hd dep hdep t ht
  have hlt := hr d hd dep hdep t ht
  unfold normRank
  apply countP_lt_of_imp
  · intro x _ hx
    have : rank x.ctor < rank t.ctor := of_decide_eq_true hx
    exact decide_eq_true (Nat.lt_trans this hlt)
  · exact ⟨t, provides_mem ht, decide_eq_true hlt, decide_eq_false (Nat.lt_irrefl _)⟩

section final
variable (beh : Beh) (descs : List Desc) (rank : Nat → Nat)

theorem settledBelow_all (hr : Ranked descs rank) :
    SettledBelow beh descs (normRank descs rank) (descs.length + 1) ((descs.length + 1) * levelCost descs) :=
  settled_by_rank beh descs (normRank descs rank) (ranked_norm hr) (descs.length + 1)

/-- `fuelFor st = (n + 2) · levelCost + 16` with `n = descs.length`: `n + 1` levels, and up to one more level's worth
for the call that starts the recursion (the 16 is not used) -/
theorem fuelFor_ge (st : State) (hst : st.descs = descs) (extra : Nat) (he : extra ≤ levelCost descs) :
    (descs.length + 1) * levelCost descs + extra ≤ fuelFor st := by
  unfold fuelFor levelCost at *
  rw [hst]
  have : (descs.length + 2) * (descs.length + maxDeps descs + 6) =
      (descs.length + 1) * (descs.length + maxDeps descs + 6) + (descs.length + maxDeps descs + 6) := Nat.succ_mul _ _
  omega

/-- resolution is settled at the model's fuel: `Get`/`GetKeyed` -/
theorem resolve_settled (hr : Ranked descs rank) (st : State) (hst : st.descs = descs) (s ty key : Nat) :
    Settled (fun f => resolve beh f st s ty key) (fuelFor st) := by
  have := settled_resolve beh descs _ (settledBelow_all beh descs rank hr) st s ty key hst
    (fun t _ => Nat.lt_succ_of_le (normRank_le descs rank t.ctor))
  have h := fuelFor_ge descs st hst 2 (by unfold levelCost; omega)
  exact this.mono (by omega)

/-- … `GetGroup` -/
theorem getGroup_settled (hr : Ranked descs rank) (st : State) (hst : st.descs = descs) (s ty grp : Nat) :
    Settled (fun f => getGroup beh f st s ty grp) (fuelFor st) := by
  have := settled_getGroup beh descs _ (settledBelow_all beh descs rank hr) st s ty grp hst
    (fun t _ => Nat.lt_succ_of_le (normRank_le descs rank t.ctor))
  have h := fuelFor_ge descs st hst (descs.length + 3) (by unfold levelCost; omega)
  exact this.mono (by omega)

/-- … the constructions Build and scope creation start directly (singletons, initializers) -/
theorem createInstance_settled (hr : Ranked descs rank) (st : State) (hst : st.descs = descs) (s : Nat) (d : Desc)
    (hd : d ∈ descs) : Settled (fun f => createInstance beh f st s d) (fuelFor st) := by
  have := settledBelow_all beh descs rank hr d hd (Nat.lt_succ_of_le (normRank_le descs rank d.ctor)) st s hst
  have h := fuelFor_ge descs st hst 0 (Nat.zero_le _)
  exact this.mono (by omega)

end final

end Godi.Container
