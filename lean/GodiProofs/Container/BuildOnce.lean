import GodiProofs.Container.Registration
import GodiProofs.Container.Law
import GodiProofs.Container.Stable
/-!
# Build runs every singleton constructor at most once (and exactly once when it succeeds)

`createSingletons` (collection.go / provider.go `createAllSingletonsWithContext`) walks the
topological order, skips descriptors whose identity is already in the singleton table, and calls
`createInstance` through the root scope otherwise. One constructor call stores the outputs of *all*
descriptors of the registration (`StoreRel.construct`, read for the singleton table: `singStore`), so the
siblings are skipped afterwards; nested resolutions never construct a singleton (`buildArgs_ext`).
-/
namespace Godi.Container

/-- number of successful invocations of constructor `c` recorded in a log -/
def ctorCount (log : List Event) (c : Nat) : Nat :=
  log.countP (fun e => match e with | .ctor _ c' _ _ _ _ => c' == c | _ => false)

theorem ctorCount_append (l1 l2 : List Event) (c : Nat) : ctorCount (l1 ++ l2) c = ctorCount l1 c + ctorCount l2 c := by
  simp [ctorCount, List.countP_append]

@[simp] theorem ctorCount_nil (c : Nat) : ctorCount [] c = 0 := rfl

theorem ctorCount_ctor (d c' inv s : Nat) (a : List Val) (o : List Inst) (c : Nat) :
    ctorCount [.ctor d c' inv s a o] c = if c' = c then 1 else 0 := by
  simp [ctorCount, List.countP_cons]

theorem ctorCount_ctorFail (d c' inv s : Nat) (how : Outcome) (c : Nat) :
    ctorCount [.ctorFail d c' inv s how] c = 0 := by
  simp [ctorCount]

/-- events of non-singleton descriptors do not count for a constructor that belongs to singletons -/
theorem ctorCount_nonSingleton (descs : List Desc) (new : List Event) (c : Nat)
    (hc : ∀ d ∈ descs, d.ctor = c → d.life = .singleton)
    (hev : ∀ e ∈ new, EventNonSingleton descs e) : ctorCount new c = 0 := by
  unfold ctorCount
  rw [List.countP_eq_zero]
  intro e he
  cases e with
  | ctor d c' inv s a o =>
    simp only [beq_iff_eq]
    intro hcc
    obtain ⟨x, hx, hns, hxc⟩ := hev _ he
    exact hns (hc x (List.mem_of_find?_eq_some hx) (hxc.trans hcc))
  | ctorFail _ _ _ _ _ => simp
  | closed _ _ _ => simp

/-! ### storing singleton outputs: only the table and the provider's disposal list change -/

/-- descriptors that share a constructor are the descriptors of one registration -/
def SameCtorSibs (descs : List Desc) : Prop :=
  ∀ d ∈ descs, ∀ d' ∈ descs, d'.ctor = d.ctor → d' = d ∨ (d'.id ∈ d.sibs ∧ d.id ∈ d.sibs)

def Grows (m m' : List (Ident × Val)) : Prop := ∀ k, (lookup m k).isSome → (lookup m' k).isSome

theorem Grows.refl (m : List (Ident × Val)) : Grows m m := fun _ h => h
theorem Grows.trans {a b c : List (Ident × Val)} (h1 : Grows a b) (h2 : Grows b c) : Grows a c := fun k h => h2 k (h1 k h)

theorem grows_put (m : List (Ident × Val)) (k : Ident) (v : Val) : Grows m (cachePut m k v) := by
  intro k' h
  by_cases hk : k' = k
  · subst hk; rw [lookup_put_self]; rfl
  · rw [lookup_put_ne m k k' v hk]; exact h

/-- identities newly answered by `m'` all satisfy `P` -/
def OnlyNew (P : Ident → Prop) (m m' : List (Ident × Val)) : Prop :=
  ∀ k, (lookup m' k).isSome → (lookup m k).isSome ∨ P k

theorem OnlyNew.refl (P : Ident → Prop) (m : List (Ident × Val)) : OnlyNew P m m := fun _ h => Or.inl h
theorem OnlyNew.trans {P : Ident → Prop} {a b c : List (Ident × Val)} (h1 : OnlyNew P a b) (h2 : OnlyNew P b c) :
    OnlyNew P a c := fun k h => by
  rcases h2 k h with h | h
  · exact h1 k h
  · exact Or.inr h

theorem onlyNew_put (P : Ident → Prop) (m : List (Ident × Val)) (k : Ident) (v : Val) (hk : P k) :
    OnlyNew P m (cachePut m k v) := by
  intro k' h
  by_cases hkk : k' = k
  · subst hkk; exact Or.inr hk
  · rw [lookup_put_ne m k k' v hkk] at h; exact Or.inl h

structure SingStore (P : Ident → Prop) (st st' : State) : Prop where
  descs : st'.descs = st.descs
  log : st'.log = st.log
  grows : Grows st.singletons st'.singletons
  only : OnlyNew P st.singletons st'.singletons
  next : st'.next = st.next
  scope : st'.scope = st.scope

theorem SingStore.refl (P : Ident → Prop) (st : State) : SingStore P st st :=
  ⟨rfl, rfl, Grows.refl _, OnlyNew.refl _ _, rfl, rfl⟩
theorem SingStore.trans {P : Ident → Prop} {a b c : State} (h1 : SingStore P a b) (h2 : SingStore P b c) : SingStore P a c :=
  ⟨h2.descs.trans h1.descs, h2.log.trans h1.log, h1.grows.trans h2.grows, h1.only.trans h2.only, h2.next.trans h1.next,
    h2.scope.trans h1.scope⟩

theorem setInstance_singleton (P : Ident → Prop) (st : State) (s : Nat) (d : Desc) (k : Ident) (v : Val)
    (hl : d.life = .singleton) (hP : P k) :
    SingStore P st (setInstance st s d k v).1 ∧ (lookup (setInstance st s d k v).1.singletons k).isSome ∧
    (setInstance st s d k v).2 = .ok () := by
  unfold setInstance
  simp only [hl]
  cases v with
  | inst i =>
    simp only []
    split
    · exact ⟨⟨rfl, rfl, grows_put _ _ _, onlyNew_put P _ _ _ hP, rfl, rfl⟩, by simp [storeSingleton, lookup_put_self], rfl⟩
    · exact ⟨⟨rfl, rfl, grows_put _ _ _, onlyNew_put P _ _ _ hP, rfl, rfl⟩, by simp [storeSingleton, lookup_put_self], rfl⟩
  | _ => exact ⟨⟨rfl, rfl, grows_put _ _ _, onlyNew_put P _ _ _ hP, rfl, rfl⟩, by simp [storeSingleton, lookup_put_self], rfl⟩

theorem shareInstance_singleton (P : Ident → Prop) (st : State) (s : Nat) (d : Desc) (k : Ident) (v : Val)
    (hl : d.life = .singleton) (hP : P k) :
    SingStore P st (shareInstance st s d k v) ∧ (lookup (shareInstance st s d k v).singletons k).isSome := by
  unfold shareInstance
  simp only [hl]
  exact ⟨⟨rfl, rfl, grows_put _ _ _, onlyNew_put P _ _ _ hP, rfl, rfl⟩, by simp [storeSingleton, lookup_put_self]⟩

def singStore (P : Ident → Prop) : StoreRel where
  Pre := fun _ => True
  Step := SingStore P
  Stored := fun st d => (lookup st.singletons d.ident).isSome
  refl := fun _ => .refl P _
  trans := .trans
  after := fun _ => trivial
  keeps := fun h hd => h.grows _ hd

def CtorIdents (descs : List Desc) (c : Nat) (k : Ident) : Prop := ∃ d' ∈ descs, d'.ctor = c ∧ d'.ident = k

/-- `fired`: the constructor succeeded; `nested`: what argument building logged. Without a success the
table gains entries only when `d` is a registered value (`provideValue` stores it and logs nothing): the
second clause of `count`, which lets the loop's invariant tell entries that stand for a success from those. -/
structure CreateSing (st st' : State) (d : Desc) (res : Except Err Val) : Prop where
  descs : st'.descs = st.descs
  grows : Grows st.singletons st'.singletons
  only : OnlyNew (CtorIdents st.descs d.ctor) st.singletons st'.singletons
  count : ∃ (nested : List Event) (fired : Bool), (∀ e ∈ nested, EventNonSingleton st.descs e) ∧
      (fired = false → (∃ v, d.kind = .inst v) ∨ Grows st'.singletons st.singletons) ∧
      (∀ c, ctorCount st'.log c = ctorCount st.log c + ctorCount nested c + (if fired = true ∧ d.ctor = c then 1 else 0)) ∧
      ((fired = true ∨ ∃ v, res = .ok v) →
        ((∃ v, d.kind = .inst v) ∨ fired = true) ∧
        ∀ d' ∈ st.descs, d'.ctor = d.ctor → (lookup st'.singletons d'.ident).isSome)

theorem CreateSing.idle {st st' : State} (d : Desc) (e : Err) (hd : st'.descs = st.descs)
    (hs : st'.singletons = st.singletons) (hc : ∀ c, ctorCount st'.log c = ctorCount st.log c) :
    CreateSing st st' d (.error e) := by
  refine ⟨hd, by rw [hs]; exact Grows.refl _, by rw [hs]; exact OnlyNew.refl _ _, [], false, by simp,
    fun _ => .inr (by rw [hs]; exact Grows.refl _), fun c => by simp [hc], ?_⟩
  rintro (h | ⟨v, hv⟩)
  · cases h
  · cases hv

/-- a successful call: the `ctor` event is logged (`st3`), then the outputs of the whole registration are stored -/
theorem CreateSing.fired {st st3 st' : State} {d : Desc} (res : Except Err Val)
    (h : SingStore (CtorIdents st.descs d.ctor) st3 st')
    (hall : ∀ d' ∈ st.descs, d'.ctor = d.ctor → (lookup st'.singletons d'.ident).isSome)
    {id n s : Nat} {args : List Val} {outs : List Inst} (hd3 : st3.descs = st.descs) (hs3 : st3.singletons = st.singletons)
    (hl3 : st3.log = st.log ++ [.ctor id d.ctor n s args outs]) : CreateSing st st' d res := by
  refine ⟨h.descs.trans hd3, by rw [← hs3]; exact h.grows, by rw [← hs3]; exact h.only, [], true, by simp,
    fun hf => (by cases hf), ?_, fun _ => ⟨.inr rfl, hall⟩⟩
  intro c
  rw [h.log, hl3, ctorCount_append, ctorCount_ctor]
  simp

/-- the call proper comes after argument building, which touches neither the table nor the count of
a singleton constructor -/
theorem CreateSing.after {st st1 st' : State} {s : Nat} {d : Desc} {res : Except Err Val} (h1 : Ext st st1 s)
    (h : CreateSing st1 st' d res) : CreateSing st st' d res := by
  obtain ⟨new, hlog, hnew⟩ := h1.log
  obtain ⟨nested, fired, hnested, hfalse, hcount, hres⟩ := h.count
  rw [h1.descs] at hnested hres
  rw [h1.singletons] at hfalse
  refine ⟨h.descs.trans h1.descs, by rw [← h1.singletons]; exact h.grows,
    by rw [← h1.singletons, ← h1.descs]; exact h.only, new ++ nested, fired, ?_, hfalse, ?_, hres⟩
  · intro e he
    rcases List.mem_append.1 he with he | he
    · exact hnew e he
    · exact hnested e he
  · intro c
    rw [hcount c, hlog, ctorCount_append, ctorCount_append, Nat.add_assoc (ctorCount st.log c)]

theorem okOr_ok {α} (r : Except Err Unit) (v : α) (h : r = .ok ()) : okOr r v = .ok v := by
  subst h; rfl

theorem singWrites {descs : List Desc} (wf : WF descs) (reg : RegWF descs) {d : Desc} (hd : d ∈ descs)
    (hl : d.life = .singleton) (s : Nat) : (singStore (CtorIdents descs d.ctor)).Writes s descs d :=
  ⟨fun st x hx hc v _ =>
      setInstance_singleton _ st s x x.ident v ((reg.ctor_life wf hd hx hc).trans hl) ⟨x, hx, hc, rfl⟩,
    fun st x hx hc v _ =>
      shareInstance_singleton _ st s x x.ident v ((reg.ctor_life wf hd hx hc).trans hl) ⟨x, hx, hc, rfl⟩⟩

theorem provideValue_createSing {st : State} (wf : WF st.descs) (reg : RegWF st.descs) (s : Nat) {d : Desc}
    (hd : d ∈ st.descs) (hl : d.life = .singleton) {v : Inst} (hk : d.kind = .inst v) :
    CreateSing st (provideValue st s d v).1 d (provideValue st s d v).2 := by
  obtain ⟨h, hall⟩ := (singStore _).provideValue wf reg hd (singWrites wf reg hd hl s) v trivial rfl
  exact ⟨h.descs, h.grows, h.only, [], false, by simp, fun _ => .inl ⟨v, hk⟩, fun c => by simp [h.log],
    fun _ => ⟨.inl ⟨v, hk⟩, hall⟩⟩

theorem construct_createSing (beh : Beh) {st : State} (wf : WF st.descs) (reg : RegWF st.descs) (s : Nat) {d : Desc}
    (hd : d ∈ st.descs) (hl : d.life = .singleton) (args : List Val) :
    CreateSing st (construct beh st s d args).1 d (construct beh st s d args).2 := by
  rcases (singStore _).construct beh wf reg hd (singWrites wf reg hd hl s) args with ⟨n, how, e, h⟩ | ⟨st3, h3, h⟩
  · rw [h]
    refine .idle d e rfl rfl (fun c => ?_)
    show ctorCount (st.log ++ [_]) c = _
    rw [ctorCount_append, ctorCount_ctorFail]
    rfl
  · obtain ⟨n, outs, hlog⟩ := h3.log
    exact .fired _ (h trivial).1 (h trivial).2 h3.descs h3.singletons hlog

theorem createInstance_singleton (beh : Beh) (f : Nat) (st : State) (s : Nat) (d : Desc) (wf : WF st.descs)
    (rw' : RegWF st.descs) (hd : d ∈ st.descs) (hl : d.life = .singleton) :
    CreateSing st (createInstance beh (f + 1) st s d).1 d (createInstance beh (f + 1) st s d).2 := by
  rw [createInstance_succ]
  split
  next v hk => exact provideValue_createSing wf rw' s hd hl hk
  · dsimp only
    have hA := buildArgs_ext beh f st s d.deps [] wf
    generalize buildArgs beh f st s d.deps [] = ra at hA
    split
    · exact .after hA (.idle d _ rfl rfl (fun _ => rfl))
    · exact .after hA (construct_createSing beh (hA.descs ▸ wf) (hA.descs ▸ rw') s (hA.descs ▸ hd) hl _)

/-- `c` is the constructor of singleton registrations only -/
def SingCtor (descs : List Desc) (c : Nat) : Prop := ∀ d ∈ descs, d.ctor = c → d.life = .singleton

theorem singCtor_of (descs : List Desc) (wf : WF descs) (rw' : RegWF descs) (d : Desc) (hd : d ∈ descs)
    (hl : d.life = .singleton) : SingCtor descs d.ctor :=
  fun _ hd' hc => (rw'.ctor_life wf hd hd' hc).trans hl

/-- invariant of the singleton-creation loop of Build -/
structure BuildInv (descs : List Desc) (st : State) : Prop where
  descsEq : st.descs = descs
  atMost : ∀ c, SingCtor descs c → ctorCount st.log c ≤ 1
  stored : ∀ c, SingCtor descs c → ctorCount st.log c = 1 →
    ∀ d ∈ descs, d.ctor = c → (lookup st.singletons d.ident).isSome
  counted : ∀ d ∈ descs, d.life = .singleton → (∀ v, d.kind ≠ .inst v) →
    (lookup st.singletons d.ident).isSome → ctorCount st.log d.ctor = 1

theorem buildInv_step (beh : Beh) (descs : List Desc) (wf : WF descs) (rw' : RegWF descs) (st : State)
    (inv : BuildInv descs st) (d : Desc) (hd : d ∈ descs) (hl : d.life = .singleton)
    (hnone : (lookup st.singletons d.ident).isSome = false) (f s : Nat) :
    BuildInv descs (createInstance beh (f + 1) st s d).1 := by
  obtain rfl := inv.descsEq
  have cs := createInstance_singleton beh f st s d wf rw' hd hl
  generalize createInstance beh (f + 1) st s d = r at cs
  obtain ⟨nested, fired, hnested, hfalse, hcount, hres⟩ := cs.count
  have hsc := singCtor_of st.descs wf rw' d hd hl
  -- the table does not answer for `d`, so its constructor has not succeeded
  have hzero : ctorCount st.log d.ctor = 0 := by
    have h1 := inv.atMost d.ctor hsc
    by_cases h : ctorCount st.log d.ctor = 1
    · have := inv.stored d.ctor hsc h d hd rfl
      rw [this] at hnone; cases hnone
    · omega
  have hnest0 : ∀ c, SingCtor st.descs c → ctorCount nested c = 0 :=
    fun c hc => ctorCount_nonSingleton st.descs nested c hc hnested
  refine ⟨cs.descs, ?_, ?_, ?_⟩
  · intro c hc
    rw [hcount c, hnest0 c hc]
    by_cases hcc : d.ctor = c
    · subst hcc; rw [hzero]; split <;> omega
    · have := inv.atMost c hc
      simp [hcc]; omega
  · intro c hc h1 d' hd' hdc
    rw [hcount c, hnest0 c hc] at h1
    by_cases hcc : fired = true ∧ d.ctor = c
    · obtain ⟨hf, hcc⟩ := hcc
      exact (hres (Or.inl hf)).2 d' hd' (by rw [hdc, hcc])
    · simp only [hcc, ↓reduceIte, Nat.add_zero] at h1
      exact cs.grows _ (inv.stored c hc h1 d' hd' hdc)
  · intro d0 hd0 hl0 hk0 hs0
    have hsc0 := singCtor_of st.descs wf rw' d0 hd0 hl0
    rw [hcount d0.ctor, hnest0 d0.ctor hsc0]
    -- a new entry for `d0` was made by this call, so `d0` shares `d`'s constructor
    have hnew : ¬ (lookup st.singletons d0.ident).isSome → d0.ctor = d.ctor := by
      intro hn
      rcases cs.only d0.ident hs0 with hold | ⟨d', hd', hdc, hdi⟩
      · exact absurd hold hn
      · rw [← rw'.identUnique d0 hd0 d' hd' hdi]; exact hdc
    cases hf : fired with
    | false =>
      simp only [Bool.false_eq_true, false_and, ↓reduceIte, Nat.add_zero]
      by_cases hold : (lookup st.singletons d0.ident).isSome
      · exact inv.counted d0 hd0 hl0 hk0 hold
      · rcases hfalse hf with ⟨v, hv⟩ | hg
        · exact absurd (rw'.instSibs d hd v hv d0 hd0 (hnew hold)) (hk0 v)
        · exact absurd (hg _ hs0) hold
    | true =>
      by_cases hold : (lookup st.singletons d0.ident).isSome
      · have h1 := inv.counted d0 hd0 hl0 hk0 hold
        have hne : d.ctor ≠ d0.ctor := by
          intro e; rw [← e, hzero] at h1; cases h1
        simp [hne, h1]
      · simp [hnew hold, hzero]

theorem createSingletons_spec (beh : Beh) (descs : List Desc) (wf : WF descs) (rw' : RegWF descs) :
    ∀ (order : List Nat) (st : State), BuildInv descs st →
      BuildInv descs (createSingletons beh st order).1 ∧
      Grows st.singletons (createSingletons beh st order).1.singletons ∧
      ((createSingletons beh st order).2 = .ok () → ∀ id ∈ order, ∀ d, findDesc descs id = some d →
        d.life = .singleton → (lookup (createSingletons beh st order).1.singletons d.ident).isSome) := by
  intro order
  induction order with
  | nil => intro st inv; exact ⟨inv, Grows.refl _, by simp⟩
  | cons id rest ih =>
    intro st inv
    obtain rfl := inv.descsEq
    have next : ∀ st1, BuildInv st.descs st1 → Grows st.singletons st1.singletons →
        (∀ d, findDesc st.descs id = some d → d.life = .singleton → (lookup st1.singletons d.ident).isSome) →
        BuildInv st.descs (createSingletons beh st1 rest).1 ∧
        Grows st.singletons (createSingletons beh st1 rest).1.singletons ∧
        ((createSingletons beh st1 rest).2 = .ok () → ∀ id' ∈ id :: rest, ∀ d, findDesc st.descs id' = some d →
          d.life = .singleton → (lookup (createSingletons beh st1 rest).1.singletons d.ident).isSome) := by
      intro st1 inv1 g1 hid
      obtain ⟨i, g, hs⟩ := ih st1 inv1
      refine ⟨i, g1.trans g, fun hok id' hid' d hd' hl => ?_⟩
      rcases List.mem_cons.1 hid' with rfl | h
      · exact g _ (hid d hd' hl)
      · exact hs hok id' h d hd' hl
    refine createSingletons_cases beh st id rest (M := fun r => BuildInv st.descs r.1 ∧ Grows st.singletons r.1.singletons ∧
        (r.2 = .ok () → ∀ id' ∈ id :: rest, ∀ d, findDesc st.descs id' = some d → d.life = .singleton →
          (lookup r.1.singletons d.ident).isSome))
      (next st inv (Grows.refl _)) (fun _ => ⟨inv, Grows.refl _, nofun⟩) (fun d hfd hl hn r hr => ?_)
    have hd : d ∈ st.descs := findDesc_mem hfd
    obtain ⟨f, hf⟩ := fuelFor_succ st
    rw [hf] at hr
    subst hr
    have cs := createInstance_singleton beh f st rootScope d wf rw' hd hl
    have hstep := buildInv_step beh st.descs wf rw' st inv d hd hl hn f rootScope
    refine ⟨fun v hv => next _ hstep cs.grows fun d' hd' _ => ?_, fun _ _ _ => ⟨hstep, cs.grows, nofun⟩⟩
    obtain ⟨_, _, _, _, _, hres⟩ := cs.count
    rw [hfd] at hd'
    cases hd'
    exact (hres (.inr ⟨v, hv⟩)).2 d hd rfl

/-- At most once: whatever order the graph produced and whatever the constructors do, after the
singleton-creation phase of Build no constructor of a singleton registration has succeeded twice;
and a stored non-instance singleton identity means its constructor succeeded exactly once -/
theorem build_singletons_once (beh : Beh) (descs : List Desc) (wf : WF descs) (rw' : RegWF descs) (order : List Nat)
    (st0 : State) (h0 : st0.descs = descs) (hlog : st0.log = []) (hs : st0.singletons = []) :
    BuildInv descs (createSingletons beh st0 order).1 := by
  refine (createSingletons_spec beh descs wf rw' order st0 ⟨h0, ?_, ?_, ?_⟩).1
  · intro c _; rw [hlog]; simp
  · intro c _ h; rw [hlog] at h; simp at h
  · intro d _ _ _ h; rw [hs] at h; simp [lookup] at h

end Godi.Container
