import GodiProofs.Container.Stable
/-!
What `detach` and the other updates of one scope leave alone, and what `Close` writes to the log: exactly one
`closed` event per drained instance, in list order (the drain loop itself is `closeLoop_eq`, `Rule.lean`).
-/
namespace Godi.Container

@[simp] theorem updScope_log (st : State) (s : Nat) (f : ScopeSt → ScopeSt) : (updScope st s f).log = st.log := rfl
@[simp] theorem updScope_instMeta (st : State) (s : Nat) (f : ScopeSt → ScopeSt) : (updScope st s f).instMeta = st.instMeta := rfl

theorem scope_upd (st : State) (s x : Nat) (f : ScopeSt → ScopeSt) :
    (updScope st s f).scope x = if x = s then f (st.scope s) else st.scope x := rfl

theorem alloc_scope (st : State) (par : Option Nat) (ctx x : Nat) :
    (allocScope st par ctx).scope x = if x = st.nscopes then { parent := par, ctxOf := ctx } else st.scope x := rfl

theorem addChild_scope (st : State) (p n x : Nat) :
    (addChild st p n).scope x =
      if x = p then { st.scope p with children := (st.scope p).children.map (fun (l : List Nat) => l ++ [n]) } else st.scope x := rfl

/-- what `g` does to a scope, `updScope st s g` does to every scope -/
theorem updScope_rel {P : ScopeSt → ScopeSt → Prop} (st : State) (s : Nat) (g : ScopeSt → ScopeSt) (refl : ∀ sc, P sc sc)
    (h : ∀ sc, P sc (g sc)) (x : Nat) : P (st.scope x) ((updScope st s g).scope x) := by
  rw [scope_upd]
  split
  next e => subst e; exact h _
  · exact refl _

theorem updScope_disposed (st : State) (s : Nat) (f : ScopeSt → ScopeSt) (x : Nat)
    (h : ∀ sc, (f sc).disposed = sc.disposed) : ((updScope st s f).scope x).disposed = (st.scope x).disposed :=
  updScope_rel (P := fun a b => b.disposed = a.disposed) st s f (fun _ => rfl) h x

theorem updScope_disposables (st : State) (s : Nat) (f : ScopeSt → ScopeSt) (x : Nat)
    (h : ∀ sc, (f sc).disposables = sc.disposables) :
    ((updScope st s f).scope x).disposables = (st.scope x).disposables :=
  updScope_rel (P := fun a b => b.disposables = a.disposables) st s f (fun _ => rfl) h x

theorem detach_scope (st : State) (s x : Nat) :
    (detach st s).scope x =
      if (st.scope s).parent = some x then
        { st.scope x with children := (st.scope x).children.map (fun (l : List Nat) => List.erase l s) }
      else st.scope x := by
  unfold detach
  cases hp : (st.scope s).parent with
  | none => simp
  | some p =>
    simp only [Option.some.injEq]
    by_cases hx : x = p
    · subst hx; simp [updScope]
    · have : ¬ p = x := fun e => hx e.symm
      simp [updScope, hx, this]

theorem detach_disposed (st : State) (s x : Nat) : ((detach st s).scope x).disposed = (st.scope x).disposed := by
  rw [detach_scope]; split <;> rfl

theorem detach_parent (st : State) (s x : Nat) : ((detach st s).scope x).parent = (st.scope x).parent := by
  rw [detach_scope]; split <;> rfl

theorem detach_instances (st : State) (s x : Nat) : ((detach st s).scope x).instances = (st.scope x).instances := by
  rw [detach_scope]; split <;> rfl

theorem detach_disposables (st : State) (s x : Nat) :
    ((detach st s).scope x).disposables = (st.scope x).disposables := by
  rw [detach_scope]; split <;> rfl

theorem detach_children (st : State) (s x : Nat) :
    ((detach st s).scope x).children =
      if (st.scope s).parent = some x then (st.scope x).children.map (fun (l : List Nat) => List.erase l s)
      else (st.scope x).children := by
  rw [detach_scope]; split <;> rfl

theorem detach_provScopes (st : State) (s : Nat) :
    (detach st s).provScopes = st.provScopes.map (fun (l : List Nat) => List.erase l s) := by
  unfold detach
  split <;> rfl

theorem detach_nscopes (st : State) (s : Nat) : (detach st s).nscopes = st.nscopes := by
  unfold detach
  split <;> rfl

theorem detach_pdisposed (st : State) (s : Nat) : (detach st s).disposed = st.disposed := by
  unfold detach
  split <;> rfl

theorem detach_log (st : State) (s : Nat) : (detach st s).log = st.log := by
  unfold detach
  split <;> rfl

theorem closeScope_of_disposed (beh : Beh) (order : List Nat → List Nat) (f : Nat) (st : State) (s : Nat)
    (h : (st.scope s).disposed = true) : closeScope beh order f st s = (st, false) := by
  cases f with
  | zero => simp [closeScope]
  | succ f => unfold closeScope; simp [h]

theorem closeProvider_of_disposed (beh : Beh) (order : List Nat → List Nat) (st : State) (h : st.disposed = true) :
    closeProvider beh order st = (st, false) := by
  unfold closeProvider; simp [h]

theorem closeScope_instances (beh : Beh) (order : List Nat → List Nat) (f : Nat) (st : State) (s : Nat)
    (h : (st.scope s).disposed = false) : (((closeScope beh order (f + 1) st s).1).scope s).instances = none := by
  unfold closeScope; simp [h, dropInstances, updScope]

/-- `scope.Close` of an open scope: first everything its children's Close calls log, then exactly
one `closed` event for each instance of its own disposal list, newest first -/
theorem closeScope_log (beh : Beh) (order : List Nat → List Nat) (f : Nat) (st : State) (s : Nat)
    (h : (st.scope s).disposed = false) :
    let r1 := closeChildren beh order f (takeChildren (markDisposed st s) s) (order ((st.scope s).children.getD []))
    (closeScope beh order (f + 1) st s).1.log =
      r1.1.log ++ (((r1.1.scope s).disposables.getD []).reverse).map (closedEv beh r1.1 s) := by
  intro r1
  unfold closeScope
  simp only [h, Bool.false_eq_true, ↓reduceIte]
  simp only [dropInstances, updScope_log, detach_log _ s]
  rw [closeLoop_eq]
  rfl

/-! ### `disposed` flags only ever go from false to true; `Close` sets them for the scope and its children -/

theorem closeScope_disposes_self (beh : Beh) (order : List Nat → List Nat) (f : Nat) (st : State) (s : Nat) :
    (((closeScope beh order (f + 1) st s).1).scope s).disposed = true := by
  refine closeScope_cases beh order f st s (M := fun r => (r.1.scope s).disposed = true) (fun h => h) (fun _ r1 r2 e1 e2 => ?_)
  -- the flag is set first, and everything after that is monotone
  have h1 : (r1.1.scope s).disposed = true := e1 ▸ (closeScope_dispMono beh order f).2 _ _ s (by rw [mark_self])
  exact e2 ▸ closeTail_dispMono beh s r1.1 _ s h1

theorem closeScope_disposes (beh : Beh) (order : List Nat → List Nat) (st0 st : State) (s : Nat) :
    (((closeScope beh order (closeFuel st0) st s).1).scope s).disposed = true :=
  closeScope_disposes_self beh order ((st0.nscopes + 1) * (st0.nscopes + 2) + 3) st s

theorem closeChildren_disposes_all (beh : Beh) (order : List Nat → List Nat) : ∀ (l : List Nat) (fuel : Nat) (st : State),
    l.length + 1 ≤ fuel → ∀ c ∈ l, (((closeChildren beh order fuel st l).1).scope c).disposed = true := by
  intro l
  induction l with
  | nil => intro fuel st _ c hc; cases hc
  | cons a rest ih =>
    intro fuel st hf c hc
    simp only [List.length_cons] at hf
    obtain ⟨f, rfl⟩ : ∃ f, fuel = f + 2 := ⟨fuel - 2, by omega⟩
    unfold closeChildren
    rcases List.mem_cons.1 hc with rfl | hc
    · exact (closeScope_dispMono beh order (f + 1)).2 _ rest c (closeScope_disposes_self beh order f st c)
    · exact ih (f + 1) _ (by omega) c hc

end Godi.Container
