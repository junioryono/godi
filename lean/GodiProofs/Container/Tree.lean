import GodiProofs.Container.Drain
/-!
# The scope forest: tables hold live scopes only, and `Close` reaches every descendant

`TreeEx A N st` is the structural invariant of the scope forest at an operation boundary (`A = N = ∅`), and —
with the scopes whose `Close` is on the stack exempted (`A`) — inside `Close`, and — with the scope that is being
created exempted from being listed by its parent (`N`) — inside `CreateScope`:

* the provider's scope table and every scope's child table are duplicate-free and hold only *open*
  scopes (C14: a closed scope is kept neither by the provider nor by its parent);
* an open scope's parent is open and lists it (so: a closed scope has no open descendant — C13, cascade);
* a closed scope has released its child table and its instance cache.

`tree_close` shows that `scope.Close` re-establishes it, for every iteration order of the child tables, with
an explicit fuel bound that `closeFuel` meets; parents are older than their children, so the recursion is
bounded by the scope ids.

Of the step relations: `SameForest ⇒ TFrame ⇒ CFrame` (nothing the invariant reads is touched; resolution;
`Close`), and `CFrame.disp` is `DispMono`. `TFrame` carries the invariant over as it is (`TFrame.tree`).
-/
namespace Godi.Container

/-! A table: a duplicate-free list of scopes with a property of each entry. -/

theorem table_mono {P Q : Nat → Prop} {l : List Nat} (h : l.Nodup ∧ ∀ x ∈ l, P x) (hPQ : ∀ x, P x → Q x) :
    l.Nodup ∧ ∀ x ∈ l, Q x :=
  ⟨h.1, fun x hx => hPQ x (h.2 x hx)⟩

theorem table_erase {P Q : Nat → Prop} {l : List Nat} (s : Nat) (h : l.Nodup ∧ ∀ x ∈ l, P x)
    (hPQ : ∀ x, x ≠ s → P x → Q x) : (l.erase s).Nodup ∧ ∀ x ∈ l.erase s, Q x :=
  ⟨h.1.erase s, fun x hx => hPQ x (h.1.mem_erase_iff.1 hx).1 (h.2 x (h.1.mem_erase_iff.1 hx).2)⟩

theorem table_snoc {P : Nat → Prop} {l : List Nat} {n : Nat} (h : l.Nodup ∧ ∀ x ∈ l, P x) (hn : n ∉ l) (hP : P n) :
    (l ++ [n]).Nodup ∧ ∀ x ∈ l ++ [n], P x := by
  refine ⟨List.nodup_append.2 ⟨h.1, List.pairwise_singleton _ n, fun a ha b hb e => ?_⟩, fun x hx => ?_⟩
  · rw [← e, List.mem_singleton] at hb
    exact hn (hb ▸ ha)
  · rcases List.mem_append.1 hx with hx | hx
    · exact h.2 x hx
    · rw [List.mem_singleton.1 hx]; exact hP

structure TreeEx (A N : Nat → Prop) (st : State) : Prop where
  older : ∀ c p, c < st.nscopes → (st.scope c).parent = some p → p < c
  kids : ∀ p C, (st.scope p).children = some C → C.Nodup ∧
    ∀ c ∈ C, c < st.nscopes ∧ (st.scope c).parent = some p ∧ ((st.scope c).disposed = false ∨ A c)
  tbl : ∀ l, st.provScopes = some l → l.Nodup ∧
    ∀ x ∈ l, x < st.nscopes ∧ x ≠ rootScope ∧ ((st.scope x).disposed = false ∨ A x)
  up : ∀ c p, c < st.nscopes → (st.scope c).parent = some p → (st.scope c).disposed = false →
    (st.scope p).disposed = false ∨ A p
  member : ∀ c p C, c < st.nscopes → (st.scope c).parent = some p → (st.scope c).disposed = false →
    (st.scope p).children = some C → c ∈ C ∨ N c
  openHas : ∀ x, (st.scope x).disposed = false → (st.scope x).children.isSome
  released : ∀ x, (st.scope x).disposed = true → ¬ A x → (st.scope x).children = none ∧ (st.scope x).instances = none

abbrev Tree (st : State) : Prop := TreeEx (fun _ => False) (fun _ => False) st

/-- what no resolution, construction or storing of instances — of any lifetime, singletons at Build
included — ever touches: the scope count, the provider's table, and of every scope the `disposed` flag,
the parent link and the child table; a released instance cache stays released -/
structure TFrame (st st' : State) : Prop where
  nscopes : st'.nscopes = st.nscopes
  prov : st'.provScopes = st.provScopes
  disp : ∀ x, (st'.scope x).disposed = (st.scope x).disposed
  parent : ∀ x, (st'.scope x).parent = (st.scope x).parent
  children : ∀ x, (st'.scope x).children = (st.scope x).children
  instNone : ∀ x, (st.scope x).instances = none → (st'.scope x).instances = none

theorem TFrame.refl (st : State) : TFrame st st := ⟨rfl, rfl, fun _ => rfl, fun _ => rfl, fun _ => rfl, fun _ h => h⟩

theorem TFrame.trans {a b c : State} (h1 : TFrame a b) (h2 : TFrame b c) : TFrame a c :=
  ⟨h2.nscopes.trans h1.nscopes, h2.prov.trans h1.prov, fun x => (h2.disp x).trans (h1.disp x),
   fun x => (h2.parent x).trans (h1.parent x), fun x => (h2.children x).trans (h1.children x),
   fun x h => h2.instNone x (h1.instNone x h)⟩

theorem TFrame.tree {A N : Nat → Prop} {st st' : State} (f : TFrame st st') (t : TreeEx A N st) : TreeEx A N st' := by
  refine ⟨?_, ?_, ?_, ?_, ?_, ?_, ?_⟩
  · intro c p hc hp; rw [f.nscopes] at hc; rw [f.parent] at hp; exact t.older c p hc hp
  · intro p C hC
    rw [f.children] at hC
    exact table_mono (t.kids p C hC) (fun c h => by rw [f.nscopes, f.parent, f.disp]; exact h)
  · intro l hl
    rw [f.prov] at hl
    exact table_mono (t.tbl l hl) (fun x h => by rw [f.nscopes, f.disp]; exact h)
  · intro c p hc hp hd
    rw [f.nscopes] at hc; rw [f.parent] at hp; rw [f.disp] at hd ⊢
    exact t.up c p hc hp hd
  · intro c p C hc hp hd hC
    rw [f.nscopes] at hc; rw [f.parent] at hp; rw [f.disp] at hd; rw [f.children] at hC
    exact t.member c p C hc hp hd hC
  · intro x hd; rw [f.disp] at hd; rw [f.children]; exact t.openHas x hd
  · intro x hd ha
    rw [f.disp] at hd; rw [f.children]
    exact ⟨(t.released x hd ha).1, f.instNone x (t.released x hd ha).2⟩

/-- the fields the invariant talks about -/
structure SameForest (a b : State) : Prop where
  nscopes : b.nscopes = a.nscopes
  prov : b.provScopes = a.provScopes
  disp : ∀ x, (b.scope x).disposed = (a.scope x).disposed
  parent : ∀ x, (b.scope x).parent = (a.scope x).parent
  children : ∀ x, (b.scope x).children = (a.scope x).children
  instances : ∀ x, (b.scope x).instances = (a.scope x).instances

theorem SameForest.tframe {a b : State} (h : SameForest a b) : TFrame a b :=
  ⟨h.nscopes, h.prov, h.disp, h.parent, h.children, fun x hx => by rw [h.instances]; exact hx⟩

theorem TreeEx.congr {A N : Nat → Prop} {a b : State} (h : SameForest a b) (t : TreeEx A N a) : TreeEx A N b :=
  h.tframe.tree t

/-- what `Close` never undoes -/
structure CFrame (st st' : State) : Prop where
  nscopes : st'.nscopes = st.nscopes
  parent : ∀ x, (st'.scope x).parent = (st.scope x).parent
  disp : ∀ x, (st.scope x).disposed = true → (st'.scope x).disposed = true
  kidsNone : ∀ x, (st.scope x).children = none → (st'.scope x).children = none

theorem CFrame.refl (st : State) : CFrame st st := ⟨rfl, fun _ => rfl, fun _ h => h, fun _ h => h⟩
theorem CFrame.trans {a b c : State} (h1 : CFrame a b) (h2 : CFrame b c) : CFrame a c :=
  ⟨h2.nscopes.trans h1.nscopes, fun x => (h2.parent x).trans (h1.parent x), fun x h => h2.disp x (h1.disp x h),
   fun x h => h2.kidsNone x (h1.kidsNone x h)⟩

theorem TFrame.cframe {a b : State} (h : TFrame a b) : CFrame a b :=
  ⟨h.nscopes, h.parent, fun x hx => by rw [h.disp]; exact hx, fun x hx => by rw [h.children]; exact hx⟩

theorem tframe_upd (st : State) (s : Nat) (g : ScopeSt → ScopeSt) (hd : ∀ sc, (g sc).disposed = sc.disposed)
    (hp : ∀ sc, (g sc).parent = sc.parent) (hc : ∀ sc, (g sc).children = sc.children)
    (hi : ∀ sc, sc.instances = none → (g sc).instances = none) : TFrame st (updScope st s g) :=
  ⟨rfl, rfl, updScope_rel (P := fun a b => b.disposed = a.disposed) st s g (fun _ => rfl) hd,
   updScope_rel (P := fun a b => b.parent = a.parent) st s g (fun _ => rfl) hp,
   updScope_rel (P := fun a b => b.children = a.children) st s g (fun _ => rfl) hc,
   updScope_rel (P := fun a b => a.instances = none → b.instances = none) st s g (fun _ h => h) hi⟩

theorem tframe_of_eq {st st' : State} (hs : st'.scope = st.scope) (hn : st'.nscopes = st.nscopes)
    (hp : st'.provScopes = st.provScopes) : TFrame st st' :=
  ⟨hn, hp, fun x => by rw [hs], fun x => by rw [hs], fun x => by rw [hs], fun x h => by rw [hs]; exact h⟩

theorem tframe_takeDisposables (st : State) (s : Nat) : TFrame st (takeDisposables st s) :=
  tframe_upd st s _ (fun _ => rfl) (fun _ => rfl) (fun _ => rfl) (fun _ h => h)

theorem tframe_closeLoop (beh : Beh) (owner : Nat) (l : List Inst) (st : State) : TFrame st (closeLoop beh owner st l).1 := by
  rw [closeLoop_eq]; exact tframe_of_eq rfl rfl rfl

theorem cframe_upd (st : State) (s : Nat) (f : ScopeSt → ScopeSt) (hp : ∀ sc, (f sc).parent = sc.parent)
    (hd : ∀ sc, sc.disposed = true → (f sc).disposed = true) (hk : ∀ sc, sc.children = none → (f sc).children = none) :
    CFrame st (updScope st s f) :=
  ⟨rfl, updScope_rel (P := fun a b => b.parent = a.parent) st s f (fun _ => rfl) hp,
   updScope_rel (P := fun a b => a.disposed = true → b.disposed = true) st s f (fun _ h => h) hd,
   updScope_rel (P := fun a b => a.children = none → b.children = none) st s f (fun _ h => h) hk⟩

theorem cframe_detach (st : State) (s : Nat) : CFrame st (detach st s) := by
  refine ⟨detach_nscopes st s, detach_parent st s, ?_, ?_⟩
  · intro x h; rw [detach_disposed]; exact h
  · intro x h; rw [detach_children]; split
    · rw [h]; rfl
    · exact h

theorem cframe_mark (st : State) (s : Nat) : CFrame st (takeChildren (markDisposed st s) s) :=
  CFrame.trans (b := markDisposed st s) (cframe_upd _ s _ (fun _ => rfl) (fun _ _ => rfl) (fun _ h => h))
    (cframe_upd _ s _ (fun _ => rfl) (fun _ h => h) (fun _ _ => rfl))

theorem close_cframe (beh : Beh) (order : List Nat → List Nat) (fuel : Nat) :
    (∀ st s, CFrame st (closeScope beh order fuel st s).1) ∧
    (∀ st l, CFrame st (closeChildren beh order fuel st l).1) :=
  let r : CloseRule beh := ⟨fun _ => True, CFrame, fun _ => .refl _, .trans, fun _ _ => trivial,
    fun s _ _ => cframe_mark _ s,
    fun s _ _ => ((tframe_takeDisposables _ s).trans (tframe_closeLoop beh s _ _)).cframe,
    fun s _ _ => (cframe_detach _ s).trans (cframe_upd _ s _ (fun _ => rfl) (fun _ h => h) (fun _ h => h))⟩
  ⟨fun st s => ((r.close order fuel).1 st s trivial).1, fun st l => ((r.close order fuel).2 st l trivial).1⟩

theorem nodup_lt_length : ∀ (l : List Nat) (n : Nat), l.Nodup → (∀ x ∈ l, x < n) → l.length ≤ n := by
  intro l n hn hl
  have : l ⊆ List.range n := fun x hx => List.mem_range.2 (hl x hx)
  have := List.Nodup.length_le_of_subset hn this
  simpa using this

/-- the state right after `Close` has passed the gate: `s` is exempt from now on -/
theorem tree_mark {A N : Nat → Prop} {st : State} (t : TreeEx A N st) (s : Nat) :
    TreeEx (fun x => A x ∨ x = s) N (takeChildren (markDisposed st s) s) := by
  have e1 := mark_other st s
  have es := mark_self st s
  have par := (cframe_mark st s).parent
  have dis : ∀ x, ((takeChildren (markDisposed st s) s).scope x).disposed = false → (st.scope x).disposed = false ∧ x ≠ s := by
    intro x hd
    by_cases hx : x = s
    · subst hx; rw [es] at hd; cases hd
    · rw [e1 x hx] at hd; exact ⟨hd, hx⟩
  have disOr : ∀ x, ((st.scope x).disposed = false ∨ A x) →
      (((takeChildren (markDisposed st s) s).scope x).disposed = false ∨ (A x ∨ x = s)) := by
    intro x h
    by_cases hx : x = s
    · exact Or.inr (Or.inr hx)
    · rw [e1 x hx]; exact h.elim Or.inl (fun a => Or.inr (Or.inl a))
  refine ⟨?_, ?_, ?_, ?_, ?_, ?_, ?_⟩
  · intro c p hc hp; rw [par] at hp; exact t.older c p hc hp
  · intro p C hC
    have hps : p ≠ s := by intro e; subst e; rw [es] at hC; cases hC
    rw [e1 p hps] at hC
    exact table_mono (t.kids p C hC) (fun c ⟨h1, h2, h3⟩ => ⟨h1, by rw [par]; exact h2, disOr c h3⟩)
  · intro l hl
    exact table_mono (t.tbl l hl) (fun x ⟨h1, h2, h3⟩ => ⟨h1, h2, disOr x h3⟩)
  · intro c p hc hp hd
    rw [par] at hp
    obtain ⟨hd', _⟩ := dis c hd
    exact disOr p (t.up c p hc hp hd')
  · intro c p C hc hp hd hC
    have hps : p ≠ s := by intro e; subst e; rw [es] at hC; cases hC
    rw [par] at hp; rw [e1 p hps] at hC
    exact t.member c p C hc hp (dis c hd).1 hC
  · intro x hd
    obtain ⟨hd', hxs⟩ := dis x hd
    rw [e1 x hxs]; exact t.openHas x hd'
  · intro x hd hna
    have hxs : x ≠ s := fun e => hna (Or.inr e)
    rw [e1 x hxs] at hd ⊢
    exact t.released x hd (fun a => hna (Or.inl a))

theorem tree_unmark {A N : Nat → Prop} {r : State} (s : Nat) (t : TreeEx (fun x => A x ∨ x = s) N r)
    (hs : (r.scope s).disposed = true) (hk : (r.scope s).children = none)
    (hall : ∀ c, c < r.nscopes → (r.scope c).parent = some s → (r.scope c).disposed = true) :
    TreeEx A N (dropInstances (detach r s) s) := by
  have fd : TFrame (detach r s) (dropInstances (detach r s) s) :=
    tframe_upd _ s _ (fun _ => rfl) (fun _ => rfl) (fun _ => rfl) (fun _ _ => rfl)
  have hn : (dropInstances (detach r s) s).nscopes = r.nscopes := detach_nscopes r s
  have hpv : (dropInstances (detach r s) s).provScopes = r.provScopes.map (fun (l : List Nat) => List.erase l s) :=
    detach_provScopes r s
  have hd : ∀ x, ((dropInstances (detach r s) s).scope x).disposed = (r.scope x).disposed :=
    fun x => (fd.disp x).trans (detach_disposed r s x)
  have hp : ∀ x, ((dropInstances (detach r s) s).scope x).parent = (r.scope x).parent :=
    fun x => (fd.parent x).trans (detach_parent r s x)
  have hc : ∀ x, ((dropInstances (detach r s) s).scope x).children =
      if (r.scope s).parent = some x then (r.scope x).children.map (fun (l : List Nat) => List.erase l s)
      else (r.scope x).children := fun x => (fd.children x).trans (detach_children r s x)
  have keep : ∀ x, x ≠ s → (r.scope x).disposed = false ∨ A x ∨ x = s →
      ((dropInstances (detach r s) s).scope x).disposed = false ∨ A x := by
    intro x hxs h
    rw [hd]
    rcases h with h | h | h
    · exact Or.inl h
    · exact Or.inr h
    · exact absurd h hxs
  refine ⟨?_, ?_, ?_, ?_, ?_, ?_, ?_⟩
  · intro c p hcn hpp; rw [hn] at hcn; rw [hp] at hpp; exact t.older c p hcn hpp
  · intro p C' hC'
    rw [hc] at hC'
    split at hC'
    next hps =>
      obtain ⟨C, hrc, rfl⟩ := Option.map_eq_some_iff.1 hC'
      exact table_erase s (t.kids p C hrc)
        (fun c hcs ⟨h1, h2, h3⟩ => ⟨by rw [hn]; exact h1, by rw [hp]; exact h2, keep c hcs h3⟩)
    next hps =>
      -- `s` is not among them: its parent is another
      exact table_mono (t.kids p C' hC')
        (fun c ⟨h1, h2, h3⟩ => ⟨by rw [hn]; exact h1, by rw [hp]; exact h2, keep c (fun e => hps (e ▸ h2)) h3⟩)
  · intro l' hl'
    rw [hpv] at hl'
    obtain ⟨l, hrl, rfl⟩ := Option.map_eq_some_iff.1 hl'
    exact table_erase s (t.tbl l hrl) (fun x hxs ⟨h1, h2, h3⟩ => ⟨by rw [hn]; exact h1, h2, keep x hxs h3⟩)
  · intro c p hcn hpp hdc
    rw [hn] at hcn; rw [hp] at hpp; rw [hd] at hdc
    refine keep p (fun e => ?_) (t.up c p hcn hpp hdc)
    subst e
    rw [hall c hcn hpp] at hdc; cases hdc
  · intro c p C' hcn hpp hdc hC'
    rw [hn] at hcn; rw [hp] at hpp; rw [hd] at hdc; rw [hc] at hC'
    split at hC'
    next hps =>
      obtain ⟨C, hrc, rfl⟩ := Option.map_eq_some_iff.1 hC'
      have hcs : c ≠ s := by intro e; subst e; rw [hs] at hdc; cases hdc
      exact (t.member c p C hcn hpp hdc hrc).imp (List.mem_erase_of_ne hcs).2 id
    next hps => exact t.member c p C' hcn hpp hdc hC'
  · intro x hdx
    rw [hd] at hdx; rw [hc]
    split
    · rw [Option.isSome_map]; exact t.openHas x hdx
    · exact t.openHas x hdx
  · intro x hdx hna
    rw [hd] at hdx; rw [hc]
    by_cases hxs : x = s
    · subst hxs
      rw [hk]
      exact ⟨by split <;> rfl, by unfold dropInstances; rw [scope_upd, if_pos rfl]⟩
    · obtain ⟨h1, h2⟩ := t.released x hdx (fun h => h.elim hna hxs)
      rw [h1]
      exact ⟨by split <;> rfl, fd.instNone x (by rw [detach_instances]; exact h2)⟩

theorem tree_close (beh : Beh) (order : List Nat → List Nat) (hperm : ∀ l, (order l).Perm l) : ∀ fuel,
    (∀ (A N : Nat → Prop) (st : State) (s : Nat), TreeEx A N st → s < st.nscopes → (∀ c, N c → c ≤ s) →
      (st.nscopes - s) * (st.nscopes + 1) + 1 ≤ fuel → TreeEx A N (closeScope beh order fuel st s).1) ∧
    (∀ (A N : Nat → Prop) (st : State) (l : List Nat) (m : Nat), TreeEx A N st → (∀ c ∈ l, m ≤ c ∧ c < st.nscopes) →
      (∀ c, N c → c ≤ m) → l.length + (st.nscopes - m) * (st.nscopes + 1) + 1 ≤ fuel →
      TreeEx A N (closeChildren beh order fuel st l).1) := by
  intro fuel
  induction fuel with
  | zero => exact ⟨fun _ _ _ _ _ _ _ hf => absurd hf (Nat.not_succ_le_zero _), fun _ _ _ _ _ _ _ _ hf => absurd hf (Nat.not_succ_le_zero _)⟩
  | succ f ih =>
    obtain ⟨ihS, ihC⟩ := ih
    refine ⟨?_, ?_⟩
    · intro A N st s t hs hN hf
      refine closeScope_cases beh order f st s (M := fun r => TreeEx A N r.1) (fun _ => t) (fun hopen r1 r2 e1 e2 => ?_)
      obtain ⟨C, hC⟩ : ∃ C, (st.scope s).children = some C := Option.isSome_iff_exists.1 (t.openHas s hopen)
      rw [show (st.scope s).children.getD [] = C by rw [hC]; rfl] at e1
      obtain ⟨hCnd, hCel⟩ := t.kids s C hC
      -- the kids, in the order the map is ranged over: fewer than there are scopes, and all younger than `s`
      have hKmem : ∀ c, c ∈ order C ↔ c ∈ C := fun c => (hperm C).mem_iff
      have hK : ∀ c ∈ order C, s + 1 ≤ c ∧ c < st.nscopes := fun c hc =>
        have h := hCel c ((hKmem c).1 hc)
        ⟨t.older c s h.1 h.2.1, h.1⟩
      have hKlen : (order C).length ≤ st.nscopes := by
        rw [(hperm C).length_eq]
        exact nodup_lt_length C st.nscopes hCnd (fun c hc => (hCel c hc).1)
      have hbound : (order C).length + (st.nscopes - (s + 1)) * (st.nscopes + 1) + 1 ≤ f := by
        have : (st.nscopes - s) * (st.nscopes + 1) = (st.nscopes - (s + 1)) * (st.nscopes + 1) + (st.nscopes + 1) := by
          rw [show st.nscopes - s = (st.nscopes - (s + 1)) + 1 by omega, Nat.succ_mul]
        omega
      have t2 : TreeEx (fun x => A x ∨ x = s) N r1.1 :=
        e1 ▸ ihC (fun x => A x ∨ x = s) N (takeChildren (markDisposed st s) s) (order C) (s + 1) (tree_mark t s) hK
          (fun c hc => Nat.le_succ_of_le (hN c hc)) hbound
      have hall2 : ∀ c ∈ order C, (r1.1.scope c).disposed = true :=
        e1 ▸ closeChildren_disposes_all beh order (order C) f (takeChildren (markDisposed st s) s) (by omega)
      have f2 : CFrame (takeChildren (markDisposed st s) s) r1.1 := e1 ▸ (close_cframe beh order f).2 _ _
      have f4 : TFrame r1.1 r2.1 := e2 ▸ (tframe_takeDisposables r1.1 s).trans (tframe_closeLoop beh s _ _)
      have f24 : CFrame (takeChildren (markDisposed st s) s) r2.1 := f2.trans f4.cframe
      have f14 : CFrame st r2.1 := (cframe_mark st s).trans f24
      -- every scope whose parent is `s` is closed now
      have hall : ∀ c, c < r2.1.nscopes → (r2.1.scope c).parent = some s → (r2.1.scope c).disposed = true := by
        intro c hcn hcp
        rw [f14.nscopes] at hcn
        rw [f14.parent] at hcp
        by_cases hdc : (st.scope c).disposed = true
        · exact f14.disp c hdc
        · rcases t.member c s C hcn hcp (Bool.eq_false_iff.2 hdc) hC with hm | hNc
          · exact f4.cframe.disp c (hall2 c ((hKmem c).2 hm))
          · exact absurd (hN c hNc) (Nat.not_le_of_gt (t.older c s hcn hcp))
      have hs1 : ((takeChildren (markDisposed st s) s).scope s).disposed = true := by rw [mark_self]
      have hk1 : ((takeChildren (markDisposed st s) s).scope s).children = none := by rw [mark_self]
      exact tree_unmark s (f4.tree t2) (f24.disp s hs1) (f24.kidsNone s hk1) hall
    · intro A N st l m t hl hN hf
      cases l with
      | nil => exact t
      | cons c rest =>
        unfold closeChildren
        dsimp only
        simp only [List.length_cons] at hf
        obtain ⟨hmc, hcn⟩ := hl c (List.mem_cons_self ..)
        have t1 := ihS A N st c t hcn (fun x hx => Nat.le_trans (hN x hx) hmc)
          (by have := Nat.mul_le_mul_right (st.nscopes + 1) (Nat.sub_le_sub_left hmc st.nscopes); omega)
        have n1 := closeScope_nscopes beh order f st c
        generalize closeScope beh order f st c = r1 at t1 n1
        exact ihC A N r1.1 rest m t1 (fun x hx => n1 ▸ hl x (List.mem_cons_of_mem _ hx)) hN (by rw [n1]; omega)

/-- `x` is a proper descendant of `s` (through the `parent` links the scopes were created with) -/
inductive Below (st : State) (s : Nat) : Nat → Prop
  | child {x} : (st.scope x).parent = some s → Below st s x
  | step {x y} : (st.scope x).parent = some y → Below st s y → Below st s x

theorem closed_child {st : State} (t : Tree st) {x p : Nat} (hx : x < st.nscopes) (hp : (st.scope x).parent = some p)
    (hd : (st.scope p).disposed = true) : (st.scope x).disposed = true := by
  cases hdx : (st.scope x).disposed with
  | true => rfl
  | false =>
    rcases t.up x p hx hp hdx with h | h
    · rw [hd] at h; cases h
    · exact h.elim

/-- cascade, whole subtree: in a forest state a closed scope has no open descendant -/
theorem closed_has_no_open_descendant {st : State} (t : Tree st) (s : Nat) (hs : (st.scope s).disposed = true)
    (x : Nat) (hx : x < st.nscopes) (hb : Below st s x) : (st.scope x).disposed = true := by
  induction hb with
  | child hp => exact closed_child t hx hp hs
  | step hp _ ih => exact closed_child t hx hp (ih (Nat.lt_trans (t.older _ _ hx hp) hx))

/-- tables hold live scopes only: a closed scope is in nobody's table -/
theorem closed_scope_is_released {st : State} (t : Tree st) (s : Nat) (hs : (st.scope s).disposed = true) :
    (∀ l, st.provScopes = some l → s ∉ l) ∧ (∀ p C, (st.scope p).children = some C → s ∉ C) ∧
    (st.scope s).children = none ∧ (st.scope s).instances = none := by
  refine ⟨?_, ?_, (t.released s hs (fun h => h)).1, (t.released s hs (fun h => h)).2⟩
  · intro l hl hm
    rcases ((t.tbl l hl).2 s hm).2.2 with h | h
    · rw [hs] at h; cases h
    · exact h
  · intro p C hC hm
    rcases ((t.kids p C hC).2 s hm).2.2 with h | h
    · rw [hs] at h; cases h
    · exact h

/-- `Close` of a scope, with enough fuel, from a forest state: the forest invariant holds again, the scope
and every descendant are closed, and neither the provider nor any parent keeps one of them -/
theorem close_whole_subtree (beh : Beh) (order : List Nat → List Nat) (hperm : ∀ l, (order l).Perm l)
    (st : State) (t : Tree st) (s : Nat) (hs : s < st.nscopes) (fuel : Nat)
    (hf : (st.nscopes - s) * (st.nscopes + 1) + 1 ≤ fuel) :
    let st' := (closeScope beh order fuel st s).1
    Tree st' ∧ (st'.scope s).disposed = true ∧
    (∀ x, x < st.nscopes → Below st s x → (st'.scope x).disposed = true ∧
      (∀ l, st'.provScopes = some l → x ∉ l) ∧ (∀ p C, (st'.scope p).children = some C → x ∉ C)) := by
  have t' := (tree_close beh order hperm fuel).1 (fun _ => False) (fun _ => False) st s t hs (fun _ h => h.elim) hf
  have f' := (close_cframe beh order fuel).1 st s
  have hd' : (((closeScope beh order fuel st s).1).scope s).disposed = true := by
    cases fuel with
    | zero => exact absurd hf (Nat.not_succ_le_zero _)
    | succ f => exact closeScope_disposes_self beh order f st s
  refine ⟨t', hd', ?_⟩
  intro x hx hb
  have hb' : Below (closeScope beh order fuel st s).1 s x := by
    clear hx
    induction hb with
    | child hp => exact .child (by rw [f'.parent]; exact hp)
    | step hp _ ih => exact .step (by rw [f'.parent]; exact hp) ih
  have hdx := closed_has_no_open_descendant t' s hd' x (by rw [f'.nscopes]; exact hx) hb'
  have := closed_scope_is_released t' x hdx
  exact ⟨hdx, this.1, this.2.1⟩

end Godi.Container
