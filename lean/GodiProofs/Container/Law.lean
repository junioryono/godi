import GodiProofs.Container.Rule
/-!
# Laws: what every operation on a built provider lifts from its parts

The operations of a history (`Get`, `GetGroup`, `CreateScope` with its initializers, `Close`) are
compositions of resolution in some scope, `closeScope`, and three table updates. A `Law` is one step relation that
all the parts respect, with an invariant that holds between any two of them. A `Law` does not fit, and the case
lemmas and `Steps` are used directly, when the relation depends on the scope resolution runs in (`Ext`), or
the invariant is suspended while a scope is being created or closed (exempt sets that change along an
operation: `Tidy`, `Tree`), or `Close` re-establishes it only with enough fuel (`Tree`), or it needs the scope entered
into a table to be the one just allocated (`close`, `addProvScope`, `addChild` are asked for every scope number).
-/
namespace Godi.Container

def registryRule (beh : Beh) (descs : List Desc) (s : Nat) : Rule beh descs s where
  I := fun _ => True
  R := SameRegistry
  M := fun _ => True
  C := fun _ => True
  refl := fun _ => .refl _
  trans := .trans
  inv := fun _ _ => trivial
  reach := fun _ _ => trivial
  covers := fun _ _ => trivial
  value := fun _ _ _ _ => provideValue_sameRegistry ..
  construct := fun _ _ _ _ _ => construct_sameRegistry ..

theorem closeScope_sameRegistry (beh : Beh) (order : List Nat → List Nat) (fuel : Nat) (st : State) (s : Nat) :
    SameRegistry st (closeScope beh order fuel st s).1 :=
  (((CloseRule.ofFrame beh SameRegistry SameRegistry.refl SameRegistry.trans (fun _ _ _ => ⟨rfl, rfl⟩)
    (fun _ _ _ _ => ⟨rfl, rfl⟩) (fun _ _ => ⟨rfl, rfl⟩)).close order fuel).1 st s trivial).1

theorem newScope_run (beh : Beh) (st : State) (parent : Option Nat) (ctx : Nat) (r : State)
    (hr : r = (runInitializers beh (allocScope st parent ctx) st.nscopes st.initializers).1) :
    newScope beh st parent ctx true = (r, .ok st.nscopes) ∨
    ∃ e, newScope beh st parent ctx true = ((closeScope beh id (closeFuel r) r st.nscopes).1, .error e) := by
  subst hr
  unfold newScope
  simp only [↓reduceIte]
  split
  · exact .inl rfl
  next e _ => exact .inr ⟨e, rfl⟩

theorem get_cases (beh : Beh) (st : State) (s : Option Nat) (ty key : Nat) {M : State → Prop} (refused : M st)
    (run : M (resolve beh (fuelFor st) st (s.getD rootScope) ty key).1) : M (stepOp beh st (.get s ty key)) := by
  cases s with
  | none =>
    show M (providerGet beh st ty key).1
    unfold providerGet; split
    · exact refused
    · exact run
  | some s => exact run

theorem getGroup_cases (beh : Beh) (st : State) (s : Option Nat) (ty grp : Nat) {M : State → Prop} (refused : M st)
    (run : M (getGroup beh (fuelFor st) st (s.getD rootScope) ty grp).1) : M (stepOp beh st (.getGroup s ty grp)) := by
  cases s with
  | none =>
    show M (providerGetGroup beh st ty grp).1
    unfold providerGetGroup; split
    · exact refused
    · exact run
  | some s => exact run

theorem providerCreateScope_cases (beh : Beh) (st : State) (ctx : Nat) {M : State → Prop} (refused : M st)
    (created : st.disposed = false →
      ∀ r, r = (runInitializers beh (allocScope st none ctx) st.nscopes st.initializers).1 →
        M (closeScope beh id (closeFuel r) r st.nscopes).1 ∧ M (addProvScope r st.nscopes)) :
    M (providerCreateScope beh st ctx).1 := by
  unfold providerCreateScope
  split
  · exact refused
  next hopen =>
    obtain ⟨hc, ha⟩ := created (by simpa using hopen) _ rfl
    rcases newScope_run beh st none ctx _ rfl with h | ⟨e, h⟩
    · rw [h]
      dsimp only
      split
      · exact hc
      · exact ha
    · rw [h]; exact hc

theorem scopeCreateScope_cases (beh : Beh) (st : State) (p ctx : Nat) {M : State → Prop} (refused : M st)
    (created : (st.scope p).disposed = false →
      ∀ r, r = (runInitializers beh (allocScope st (some p) ctx) st.nscopes st.initializers).1 →
        M (closeScope beh id (closeFuel r) r st.nscopes).1 ∧
        M (closeScope beh id (closeFuel (addChild r p st.nscopes)) (addChild r p st.nscopes) st.nscopes).1 ∧
        M (addProvScope (addChild r p st.nscopes) st.nscopes)) :
    M (scopeCreateScope beh st p ctx).1 := by
  unfold scopeCreateScope
  split
  · exact refused
  next hopen =>
    obtain ⟨hc, hc', ha⟩ := created (by simpa using hopen) _ rfl
    rcases newScope_run beh st (some p) ctx _ rfl with h | ⟨e, h⟩
    · rw [h]
      dsimp only
      split
      · exact hc
      · split
        · exact hc'
        · exact ha
    · rw [h]; exact hc

/-- One round of the creation loop of Build: the id is passed over (it names nothing, or no singleton, or a singleton
the table answers for), or Build stops at an identity whose field was left nil, or the singleton is created in the
root scope, and the loop goes on if that succeeds. -/
theorem createSingletons_cases (beh : Beh) (st : State) (id : Nat) (rest : List Nat) {M : State × Except Err Unit → Prop}
    (skip : (∀ d, findDesc st.descs id = some d → d.life = .singleton → (lookup st.singletons d.ident).isSome) →
      M (createSingletons beh st rest))
    (stop : ∀ e, M (st, .error e))
    (create : ∀ d, findDesc st.descs id = some d → d.life = .singleton → (lookup st.singletons d.ident).isSome = false →
      ∀ r, r = createInstance beh (fuelFor st) st rootScope d →
        (∀ v, r.2 = .ok v → M (createSingletons beh r.1 rest)) ∧ ∀ e e', r.2 = .error e → M (r.1, .error e')) :
    M (createSingletons beh st (id :: rest)) := by
  unfold createSingletons
  split
  next hfd => exact skip fun d hd => by rw [hfd] at hd; cases hd
  next d hfd =>
    have skip' : (d.life = .singleton → (lookup st.singletons d.ident).isSome) → M (createSingletons beh st rest) :=
      fun h => skip fun d' hd' => Option.some.inj (hfd.symm.trans hd') ▸ h
    split
    next hl => exact skip' fun h => by simp [h] at hl
    next hl =>
      split
      · exact stop _
      split
      next hs => exact skip' fun _ => hs
      next hn =>
        obtain ⟨ok, err⟩ := create d hfd (by simpa using hl) (by simpa using hn) _ rfl
        dsimp only
        split
        next v hv => exact ok v hv
        next e he => exact err e _ he

theorem run_induction (beh : Beh) {I : State → Prop} {V : State → List Op → Prop}
    (step : ∀ st op rest, I st → V st (op :: rest) → I (stepOp beh st op) ∧ V (stepOp beh st op) rest) :
    ∀ (ops : List Op) (st : State), I st → V st ops → I (run beh st ops)
  | [], _, h, _ => h
  | op :: rest, st, h, v => run_induction beh step rest _ (step st op rest h v).1 (step st op rest h v).2

def InitsIn (N : Desc → Prop) (st : State) : Prop :=
  ∀ id ∈ st.initializers, ∀ d, findDesc st.descs id = some d → N d

theorem SameRegistry.initsIn {N : Desc → Prop} {st st' : State} (h : SameRegistry st st') (i : InitsIn N st) :
    InitsIn N st' := by
  unfold InitsIn; rw [h.1, h.2]; exact i

structure Steps (I : State → Prop) (R : State → State → Prop) : Prop where
  refl : ∀ {st}, I st → R st st
  trans : ∀ {a b c}, R a b → R b c → R a c
  inv : ∀ {a b}, I a → R a b → I b

def buildStart (descs : List Desc) : State := allocScope { descs := descs, next := firstFresh descs } none 0

theorem buildRuntime_ok {beh : Beh} {descs : List Desc} {order : List Nat} {st : State}
    (h : buildRuntime beh descs order = (st, .ok ())) :
    ∃ st2, createSingletons beh (buildStart descs) order = (st2, .ok ()) ∧
      runInitializers beh { st2 with initializers := (descs.filter isInitializer).map (·.id) } rootScope
        ((descs.filter isInitializer).map (·.id)) = (st, .ok ()) := by
  unfold buildRuntime at h
  have hn : newScope beh { descs := descs, next := firstFresh descs } none 0 false = (buildStart descs, .ok 0) := rfl
  simp only [hn] at h
  generalize createSingletons beh (buildStart descs) order = r2 at h ⊢
  obtain ⟨st2, res2⟩ := r2
  cases res2 with
  | error e => simp at h
  | ok u =>
    refine ⟨st2, rfl, ?_⟩
    dsimp only at h
    generalize runInitializers beh _ rootScope _ = r4 at h ⊢
    obtain ⟨st4, res4⟩ := r4
    cases res4 with
    | error e => simp at h
    | ok u =>
      cases h
      rfl

namespace Steps
variable {beh : Beh} {descs : List Desc} {I : State → Prop} {R : State → State → Prop} (S : Steps I R)

def Kept (_ : Steps I R) (st st' : State) : Prop := R st st' ∧ SameRegistry st st'

theorem Kept.trans {S : Steps I R} {a b c : State} (h1 : S.Kept a b) (h2 : S.Kept b c) : S.Kept a c :=
  ⟨S.trans h1.1 h2.1, h1.2.trans h2.2⟩

theorem created (s : Nat) {st : State} {d : Desc} (h : R st (createInstance beh (fuelFor st) st s d).1) :
    S.Kept st (createInstance beh (fuelFor st) st s d).1 :=
  ⟨h, (registryRule beh st.descs s).createInstance_step _ st d rfl trivial trivial⟩

theorem runInitializers (s : Nat) {N : Desc → Prop}
    (step : ∀ {st} d, st.descs = descs → I st → d ∈ descs → N d → R st (createInstance beh (fuelFor st) st s d).1) :
    ∀ (ids : List Nat) (st : State), st.descs = descs → I st →
      (∀ id ∈ ids, ∀ d, findDesc descs id = some d → N d) → S.Kept st (runInitializers beh st s ids).1 := by
  intro ids
  induction ids with
  | nil => intro st _ h _; exact ⟨S.refl h, .refl st⟩
  | cons id rest ih =>
    intro st hd h hi
    have hrest := fun x hx => hi x (List.mem_cons_of_mem _ hx)
    unfold Container.runInitializers
    split
    · exact ih st hd h hrest
    next d hf =>
      rw [hd] at hf
      have k1 := S.created s (step d hd h (List.mem_of_find?_eq_some hf) (hi id (by simp) d hf))
      dsimp only
      split
      · exact k1.trans (ih _ (k1.2.1.trans hd) (S.inv h k1.1) hrest)
      · exact k1

theorem createSingletons
    (singleton : ∀ {st} d, st.descs = descs → I st → d ∈ descs → d.life = .singleton →
      (lookup st.singletons d.ident).isSome = false → R st (createInstance beh (fuelFor st) st rootScope d).1) :
    ∀ (order : List Nat) (st : State), st.descs = descs → I st → S.Kept st (createSingletons beh st order).1 := by
  intro order
  induction order with
  | nil => intro st _ h; exact ⟨S.refl h, .refl st⟩
  | cons id rest ih =>
    intro st hd h
    refine createSingletons_cases beh st id rest (M := fun r => S.Kept st r.1) (fun _ => ih st hd h)
      (fun _ => ⟨S.refl h, .refl st⟩) (fun d hf hl hn r hr => ?_)
    subst hr
    have k1 := S.created rootScope (singleton d hd h (hd ▸ List.mem_of_find?_eq_some hf) hl hn)
    exact ⟨fun _ _ => k1.trans (ih _ (k1.2.1.trans hd) (S.inv h k1.1)), fun _ _ _ => k1⟩

theorem buildRuntime (S : Steps I R) {N : Desc → Prop} (start : I (buildStart descs))
    (singleton : ∀ {st} d, st.descs = descs → I st → d ∈ descs → d.life = .singleton →
      (lookup st.singletons d.ident).isSome = false → R st (createInstance beh (fuelFor st) st rootScope d).1)
    (setInit : ∀ {st} ids, st.descs = descs → I st → R st { st with initializers := ids })
    (initializer : ∀ {st} d, st.descs = descs → I st → d ∈ descs → N d →
      R st (createInstance beh (fuelFor st) st rootScope d).1)
    (hinit : ∀ id ∈ (descs.filter isInitializer).map (·.id), ∀ d, findDesc descs id = some d → N d)
    (order : List Nat) (hok : (buildRuntime beh descs order).2 = .ok ()) :
    I (buildRuntime beh descs order).1 ∧ (buildRuntime beh descs order).1.descs = descs ∧
    InitsIn N (buildRuntime beh descs order).1 := by
  have hb : Container.buildRuntime beh descs order = ((Container.buildRuntime beh descs order).1, .ok ()) := Prod.ext rfl hok
  obtain ⟨st2, h2, h4⟩ := buildRuntime_ok hb
  have k2 := S.createSingletons singleton order (buildStart descs) rfl start
  rw [h2] at k2
  have hd2 : st2.descs = descs := k2.2.1
  have hI2 := S.inv start k2.1
  have h3 := setInit ((descs.filter isInitializer).map (·.id)) hd2 hI2
  have k4 := S.runInitializers rootScope initializer ((descs.filter isInitializer).map (·.id))
    { st2 with initializers := (descs.filter isInitializer).map (·.id) } hd2 (S.inv hI2 h3) hinit
  rw [h4] at k4
  refine ⟨S.inv (S.inv hI2 h3) k4.1, k4.2.1.trans hd2, ?_⟩
  unfold InitsIn
  rw [show (Container.buildRuntime beh descs order).1.descs = descs from k4.2.1.trans hd2,
    show (Container.buildRuntime beh descs order).1.initializers = _ from k4.2.2]
  exact hinit

end Steps

/-- `G st s`: resolution may run in scope `s` of state `st` (what an invariant asks of the scope ids
a history mentions; a scope just allocated satisfies it). `N d`: `d` may be run as an initializer. -/
structure Law (beh : Beh) (descs : List Desc) where
  I : State → Prop
  R : State → State → Prop := fun _ b => I b
  G : State → Nat → Prop := fun _ _ => True
  N : Desc → Prop := fun _ => True
  refl : ∀ {st}, I st → R st st := by exact fun h => h
  trans : ∀ {a b c}, R a b → R b c → R a c := by exact fun _ h => h
  inv : ∀ {a b}, I a → R a b → I b := by exact fun _ h => h
  gStable : ∀ {a b s}, R a b → G a s → G b s := by exact fun _ _ => trivial
  resolve : ∀ {st} fuel s ty key, st.descs = descs → I st → G st s → R st (resolve beh fuel st s ty key).1
  getGroup : ∀ {st} fuel s ty grp, st.descs = descs → I st → G st s → R st (getGroup beh fuel st s ty grp).1
  initializer : ∀ {st} fuel s d, st.descs = descs → I st → G st s → d ∈ descs → N d →
    R st (createInstance beh fuel st s d).1
  close : ∀ {st} order fuel s, st.descs = descs → I st → R st (closeScope beh order fuel st s).1
  allocScope : ∀ {st} parent ctx, st.descs = descs → I st →
    R st (allocScope st parent ctx) ∧ G (allocScope st parent ctx) st.nscopes
  addProvScope : ∀ {st} s, st.descs = descs → I st → R st (addProvScope st s)
  addChild : ∀ {st} p s, st.descs = descs → I st → R st (addChild st p s)

namespace Law
variable {beh : Beh} {descs : List Desc} (l : Law beh descs)

theorem steps (s : Nat) : Steps (fun st => l.I st ∧ l.G st s) l.R :=
  ⟨fun h => l.refl h.1, l.trans, fun h r => ⟨l.inv h.1 r, l.gStable r h.2⟩⟩

def Kept (st st' : State) : Prop := l.R st st' ∧ SameRegistry st st'

theorem Kept.trans {l : Law beh descs} {a b c : State} (h1 : l.Kept a b) (h2 : l.Kept b c) : l.Kept a c :=
  ⟨l.trans h1.1 h2.1, h1.2.trans h2.2⟩

theorem runInitializers (s : Nat) (ids : List Nat) (st : State) (hd : st.descs = descs) (h : l.I st) (hg : l.G st s)
    (hi : ∀ id ∈ ids, ∀ d, findDesc descs id = some d → l.N d) : l.Kept st (runInitializers beh st s ids).1 :=
  (l.steps s).runInitializers s (fun d hd h hm hn => l.initializer _ s d hd h.1 h.2 hm hn) ids st hd ⟨h, hg⟩ hi

theorem thenClose {st r : State} (hd : st.descs = descs) (h : l.I st) (k : l.Kept st r) (order : List Nat → List Nat)
    (fuel s : Nat) : l.Kept st (closeScope beh order fuel r s).1 :=
  k.trans ⟨l.close order fuel s (k.2.1.trans hd) (l.inv h k.1), closeScope_sameRegistry ..⟩

theorem thenAddProvScope {st r : State} (hd : st.descs = descs) (h : l.I st) (k : l.Kept st r) (s : Nat) :
    l.Kept st (Container.addProvScope r s) :=
  k.trans ⟨l.addProvScope s (k.2.1.trans hd) (l.inv h k.1), rfl, rfl⟩

theorem thenAddChild {st r : State} (hd : st.descs = descs) (h : l.I st) (k : l.Kept st r) (p s : Nat) :
    l.Kept st (Container.addChild r p s) :=
  k.trans ⟨l.addChild p s (k.2.1.trans hd) (l.inv h k.1), rfl, rfl⟩

theorem initialized (st : State) (parent : Option Nat) (ctx : Nat) (hd : st.descs = descs) (h : l.I st)
    (i : InitsIn l.N st) :
    l.Kept st (Container.runInitializers beh (Container.allocScope st parent ctx) st.nscopes st.initializers).1 :=
  have a := l.allocScope parent ctx hd h
  Kept.trans ⟨a.1, rfl, rfl⟩ (l.runInitializers st.nscopes _ (Container.allocScope st parent ctx) hd (l.inv h a.1) a.2
    (fun id hid d hf => i id hid d (by rw [hd]; exact hf)))

theorem newScope (st : State) (parent : Option Nat) (ctx : Nat) (ri : Bool) (hd : st.descs = descs) (h : l.I st)
    (i : InitsIn l.N st) : l.Kept st (newScope beh st parent ctx ri).1 := by
  cases ri with
  | false => exact ⟨(l.allocScope parent ctx hd h).1, rfl, rfl⟩
  | true =>
    have k := l.initialized st parent ctx hd h i
    rcases newScope_run beh st parent ctx _ rfl with e | ⟨_, e⟩
    · rw [e]; exact k
    · rw [e]; exact l.thenClose hd h k _ _ _

/-- the scope an operation resolves in -/
def scopeOf : Op → Option Nat
  | .get s _ _ | .getGroup s _ _ => some (s.getD rootScope)
  | _ => none

theorem stepOp_kept (st : State) (op : Op) (hd : st.descs = descs) (h : l.I st) (i : InitsIn l.N st)
    (hg : ∀ s, scopeOf op = some s → l.G st s) : l.Kept st (stepOp beh st op) := by
  have k0 : l.Kept st st := ⟨l.refl h, .refl st⟩
  cases op with
  | get s ty key =>
    exact get_cases beh st s ty key (M := l.Kept st) k0
      ⟨l.resolve _ _ ty key hd h (hg _ rfl), (registryRule beh st.descs _).resolve_step _ st ty key rfl trivial⟩
  | getGroup s ty g' =>
    exact getGroup_cases beh st s ty g' (M := l.Kept st) k0
      ⟨l.getGroup _ _ ty g' hd h (hg _ rfl), (registryRule beh st.descs _).getGroup_step _ st ty g' rfl trivial⟩
  | createScope p ctx =>
    cases p with
    | none =>
      refine providerCreateScope_cases beh st ctx (M := l.Kept st) k0 (fun _ r hr => ?_)
      have k := hr ▸ l.initialized st none ctx hd h i
      exact ⟨l.thenClose hd h k _ _ _, l.thenAddProvScope hd h k _⟩
    | some p =>
      refine scopeCreateScope_cases beh st p ctx (M := l.Kept st) k0 (fun _ r hr => ?_)
      have k := hr ▸ l.initialized st (some p) ctx hd h i
      have k' := l.thenAddChild hd h k p st.nscopes
      exact ⟨l.thenClose hd h k _ _ _, l.thenClose hd h k' _ _ _, l.thenAddProvScope hd h k' _⟩
  | closeScope s order => exact l.thenClose hd h k0 order _ s

theorem stepOp (st : State) (op : Op) (hd : st.descs = descs) (h : l.I st) (i : InitsIn l.N st)
    (hg : ∀ s, scopeOf op = some s → l.G st s) : l.R st (stepOp beh st op) := (l.stepOp_kept st op hd h i hg).1

theorem runValid {V : State → List Op → Prop}
    (hV : ∀ st op rest, l.I st → V st (op :: rest) →
      (∀ s, scopeOf op = some s → l.G st s) ∧ V (Container.stepOp beh st op) rest)
    (ops : List Op) (st : State) (hd : st.descs = descs) (h : l.I st) (i : InitsIn l.N st) (hv : V st ops) :
    l.R st (run beh st ops) :=
  (run_induction beh (I := fun st' => (st'.descs = descs ∧ l.I st' ∧ InitsIn l.N st') ∧ (l.I st → l.R st st')) (V := V)
    (fun a op rest ha v =>
      have k := l.stepOp_kept a op ha.1.1 ha.1.2.1 ha.1.2.2 (hV a op rest ha.1.2.1 v).1
      ⟨⟨⟨k.2.1.trans ha.1.1, l.inv ha.1.2.1 k.1, k.2.initsIn ha.1.2.2⟩, fun h0 => l.trans (ha.2 h0) k.1⟩,
       (hV a op rest ha.1.2.1 v).2⟩)
    ops st ⟨⟨hd, h, i⟩, fun h0 => l.refl h0⟩ hv).2 h

theorem run (hG : ∀ st s, l.G st s) (ops : List Op) (st : State) (hd : st.descs = descs) (h : l.I st)
    (i : InitsIn l.N st) : l.R st (run beh st ops) :=
  l.runValid (V := fun _ _ => True) (fun st _ _ _ _ => ⟨fun s _ => hG st s, trivial⟩) ops st hd h i trivial

end Law

def Law.free (beh : Beh) (descs : List Desc) (N : Desc → Prop) : Law beh descs :=
  ⟨fun _ => True, fun _ _ => True, fun _ _ => True, N, fun _ => trivial, fun _ _ => trivial, fun _ _ => trivial,
    fun _ _ => trivial, fun _ _ _ _ _ _ _ => trivial, fun _ _ _ _ _ _ _ => trivial, fun _ _ _ _ _ _ _ _ => trivial,
    fun _ _ _ _ _ => trivial, fun _ _ _ _ => ⟨trivial, trivial⟩, fun _ _ _ => trivial, fun _ _ _ _ => trivial⟩

theorem stepOp_sameRegistry (beh : Beh) (st : State) (op : Op) : SameRegistry st (stepOp beh st op) :=
  ((Law.free beh st.descs fun _ => True).stepOp_kept st op rfl trivial (fun _ _ _ _ => trivial) (fun _ _ => trivial)).2

theorem buildRuntime_descs (beh : Beh) (descs : List Desc) (order : List Nat)
    (hok : (buildRuntime beh descs order).2 = .ok ()) : (buildRuntime beh descs order).1.descs = descs :=
  (Steps.buildRuntime (I := fun _ => True) (R := fun _ _ => True) (N := fun _ => True)
    ⟨fun _ => trivial, fun _ _ => trivial, fun _ _ => trivial⟩ trivial (fun _ _ _ _ _ _ => trivial) (fun _ _ _ => trivial)
    (fun _ _ _ _ _ => trivial) (fun _ _ _ _ => trivial) order hok).2.1

namespace Law
variable {beh : Beh} {descs : List Desc} (l : Law beh descs)

theorem buildRuntime (start : l.I (buildStart descs)) (root : l.G (buildStart descs) rootScope)
    (singleton : ∀ {st} d, st.descs = descs → l.I st → l.G st rootScope → d ∈ descs → d.life = .singleton →
      (lookup st.singletons d.ident).isSome = false → l.R st (createInstance beh (fuelFor st) st rootScope d).1)
    (setInit : ∀ {st} ids, st.descs = descs → l.I st → l.R st { st with initializers := ids })
    (hinit : ∀ id ∈ (descs.filter isInitializer).map (·.id), ∀ d, findDesc descs id = some d → l.N d)
    (order : List Nat) (hok : (buildRuntime beh descs order).2 = .ok ()) :
    l.I (buildRuntime beh descs order).1 ∧ (buildRuntime beh descs order).1.descs = descs ∧
    InitsIn l.N (buildRuntime beh descs order).1 :=
  have b := (l.steps rootScope).buildRuntime ⟨start, root⟩ (fun d hd h => singleton d hd h.1 h.2)
    (fun ids hd h => setInit ids hd h.1) (fun d hd h hm hn => l.initializer _ rootScope d hd h.1 h.2 hm hn) hinit order hok
  ⟨b.1.1, b.2⟩

end Law

end Godi.Container
