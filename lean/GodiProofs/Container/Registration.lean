import GodiProofs.Container.Instances
import GodiProofs.Container.Registry
/-!
# The descriptors of one registration, and what `construct` stores for them

The descriptors that share a constructor list each other as siblings (`RegWF`, `Registry.lean`), and `construct`
stores one output for each of them through `setInstance` and `shareInstance`. `StoreRel.construct` tells that once, for
any relation between states these two writes respect: afterwards every descriptor of the registration is `Stored`. `BuildOnce.lean` reads it for the singleton table, `ScopedOnce.lean` for the
cache of an open scope.

`StoreRel` says *that* a value is kept for each descriptor, and relates two states; `Stores`
(`Stores.lean`) says *which* values may be kept, for an invariant of one state.
-/
namespace Godi.Container

theorem mem_eraseIdx_or_getElem? {α} : ∀ (l : List α) (k : Nat) (x : α), x ∈ l → x ∈ l.eraseIdx k ∨ l[k]? = some x := by
  intro l
  induction l with
  | nil => intro k x h; cases h
  | cons a rest ih =>
    intro k x h
    cases k with
    | zero =>
      rcases List.mem_cons.1 h with rfl | h
      · exact Or.inr rfl
      · exact Or.inl h
    | succ k =>
      rcases List.mem_cons.1 h with rfl | h
      · exact Or.inl (by simp [List.eraseIdx])
      · rcases ih k x h with h' | h'
        · exact Or.inl (by simp [List.eraseIdx, h'])
        · exact Or.inr (by simpa using h')

theorem valued_cover (sibs0 : List Desc) (nil? : Option Nat) :
    ∀ x ∈ sibs0, x ∈ valued sibs0 nil? ∨ ∃ k, nil? = some k ∧ sibs0[k]? = some x := by
  intro x hx
  cases nil? with
  | none => exact .inl hx
  | some k => exact (mem_eraseIdx_or_getElem? sibs0 k x hx).imp id fun hg => ⟨k, rfl, hg⟩

/-- A reading of stores: `Step st st'` relates the states before and after some of them, `Pre st` is what
a store needs of the state it starts from, `Stored st d` says that the value kept for `d` is there. -/
structure StoreRel where
  Pre : State → Prop
  Step : State → State → Prop
  Stored : State → Desc → Prop
  refl : ∀ {st}, Pre st → Step st st
  trans : ∀ {a b c}, Step a b → Step b c → Step a c
  after : ∀ {a b}, Step a b → Pre b
  keeps : ∀ {a b d}, Step a b → Stored a d → Stored b d

namespace StoreRel
variable (R : StoreRel) {s : Nat}

theorem storeOuts : ∀ (sibs : List Desc) (outs : List Inst) (st : State), sibs.length ≤ outs.length → R.Pre st →
    (∀ st, ∀ d ∈ sibs, ∀ o, R.Pre st → R.Step st (setInstance st s d d.ident (.inst o)).1 ∧
      R.Stored (setInstance st s d d.ident (.inst o)).1 d ∧ (setInstance st s d d.ident (.inst o)).2 = .ok ()) →
    R.Step st (storeOuts st s sibs outs).1 ∧ (storeOuts st s sibs outs).2 = .ok () ∧
    ∀ d ∈ sibs, R.Stored (storeOuts st s sibs outs).1 d := by
  intro sibs
  induction sibs with
  | nil => intro outs st _ hJ _; unfold Container.storeOuts; exact ⟨R.refl hJ, rfl, by simp⟩
  | cons d ds ih =>
    intro outs st hlen hJ set
    cases outs with
    | nil => simp at hlen
    | cons o os =>
      unfold Container.storeOuts
      obtain ⟨h1, h1s, h1ok⟩ := set st d (by simp) o hJ
      obtain ⟨h2, h2ok, h2s⟩ := ih os (setInstance st s d d.ident (.inst o)).1 (by simpa using hlen) (R.after h1)
        (fun st x hx => set st x (List.mem_cons_of_mem _ hx))
      refine ⟨R.trans h1 h2, by simp only [h1ok, h2ok], ?_⟩
      intro x hx
      rcases List.mem_cons.1 hx with rfl | hx
      · exact R.keeps h2 h1s
      · exact h2s x hx

theorem shareAll (self : Nat) (v : Val) : ∀ (sibs : List Desc) (st : State), R.Pre st →
    (∀ st, ∀ d ∈ sibs, R.Pre st → R.Step st (shareInstance st s d d.ident v) ∧ R.Stored (shareInstance st s d d.ident v) d) →
    R.Step st (shareAll st s self sibs v) ∧ ∀ d ∈ sibs, d.id ≠ self → R.Stored (shareAll st s self sibs v) d := by
  intro sibs
  induction sibs with
  | nil => intro st hJ _; exact ⟨R.refl hJ, by simp⟩
  | cons d ds ih =>
    intro st hJ share
    unfold Container.shareAll
    simp only [List.foldl_cons]
    have hrest := fun st' hJ' => ih st' hJ' (fun st x hx => share st x (List.mem_cons_of_mem _ hx))
    unfold Container.shareAll at hrest
    split
    next hself =>
      obtain ⟨h2, h2s⟩ := hrest st hJ
      refine ⟨h2, ?_⟩
      intro x hx hne
      rcases List.mem_cons.1 hx with rfl | hx
      · exact absurd hself hne
      · exact h2s x hx hne
    next hself =>
      obtain ⟨h1, h1s⟩ := share st d (by simp) hJ
      obtain ⟨h2, h2s⟩ := hrest _ (R.after h1)
      refine ⟨R.trans h1 h2, ?_⟩
      intro x hx hne
      rcases List.mem_cons.1 hx with rfl | hx
      · exact R.keeps h2 h1s
      · exact h2s x hx hne

theorem resultObject (st : State) (sibs0 : List Desc) (outs : List Inst) (nil? : Option Nat)
    (hlen : (valued sibs0 nil?).length ≤ outs.length) (hPre : R.Pre st)
    (set : ∀ st, ∀ d ∈ sibs0, ∀ o, R.Pre st → R.Step st (setInstance st s d d.ident (.inst o)).1 ∧
      R.Stored (setInstance st s d d.ident (.inst o)).1 d ∧ (setInstance st s d d.ident (.inst o)).2 = .ok ())
    (share : ∀ st, ∀ d ∈ sibs0, R.Pre st →
      R.Step st (shareInstance st s d d.ident .absent) ∧ R.Stored (shareInstance st s d d.ident .absent) d) :
    R.Step st (markAbsent (Container.storeOuts st s (valued sibs0 nil?) outs).1 s sibs0 nil?) ∧
    ∀ x ∈ sibs0, R.Stored (markAbsent (Container.storeOuts st s (valued sibs0 nil?) outs).1 s sibs0 nil?) x := by
  obtain ⟨h1, _, h1s⟩ := R.storeOuts (valued sibs0 nil?) outs st hlen hPre (fun st d hd => set st d (mem_valued hd))
  have hcov := valued_cover sibs0 nil?
  generalize (Container.storeOuts st s (valued sibs0 nil?) outs).1 = st1 at h1 h1s ⊢
  generalize valued sibs0 nil? = sibs' at h1s hcov
  unfold markAbsent
  split
  next k =>
    split
    next dk hk =>
      obtain ⟨h2, h2s⟩ := share st1 dk (List.mem_of_getElem? hk) (R.after h1)
      refine ⟨R.trans h1 h2, fun x hx => ?_⟩
      rcases hcov x hx with hin | ⟨k', hk', hget⟩
      · exact R.keeps h2 (h1s x hin)
      · cases hk'
        rw [hk] at hget
        cases hget
        exact h2s
    next hnone =>
      refine ⟨h1, fun x hx => ?_⟩
      rcases hcov x hx with hin | ⟨k', hk', hget⟩
      · exact h1s x hin
      · cases hk'
        rw [hnone] at hget
        cases hget
  · refine ⟨h1, fun x hx => ?_⟩
    rcases hcov x hx with hin | ⟨k', hk', _⟩
    · exact h1s x hin
    · cases hk'

structure Writes (s : Nat) (descs : List Desc) (d : Desc) : Prop where
  set : ∀ st, ∀ x ∈ descs, x.ctor = d.ctor → ∀ v, R.Pre st → R.Step st (setInstance st s x x.ident v).1 ∧
    R.Stored (setInstance st s x x.ident v).1 x ∧ (setInstance st s x x.ident v).2 = .ok ()
  share : ∀ st, ∀ x ∈ descs, x.ctor = d.ctor → ∀ v, R.Pre st →
    R.Step st (shareInstance st s x x.ident v) ∧ R.Stored (shareInstance st s x x.ident v) x

theorem provideValue {descs : List Desc} (wf : WF descs) (reg : RegWF descs) {st : State} {d : Desc} (hd : d ∈ descs)
    (w : R.Writes s descs d) (v : Inst) (hPre : R.Pre st) (hst : st.descs = descs) :
    R.Step st (provideValue st s d v).1 ∧ ∀ x ∈ descs, x.ctor = d.ctor → R.Stored (provideValue st s d v).1 x := by
  obtain ⟨h1, h1s, h1ok⟩ := w.set st d hd rfl (.inst v) hPre
  obtain ⟨h2, h2s⟩ := R.shareAll d.id (.inst v) (d.sibs.filterMap (findDesc st.descs)) _ (R.after h1)
    (fun st' x hx => w.share st' x (reg.sibs_mem hd x (hst ▸ hx)).1 (reg.sibs_mem hd x (hst ▸ hx)).2 _)
  unfold Container.provideValue
  simp only [h1ok]
  refine ⟨R.trans h1 h2, fun x hx hc => ?_⟩
  rcases reg.sameCtor_sib wf hd hx hc with h | h
  · rw [h]; exact R.keeps h2 h1s
  · exact h2s x (hst ▸ h.1) h.2

/-- `st3` is `st` with the successful call of `d`'s constructor logged: counters and log move, nothing else -/
structure CallLogged (st st3 : State) (s : Nat) (d : Desc) (args : List Val) : Prop where
  descs : st3.descs = st.descs
  scope : st3.scope = st.scope
  singletons : st3.singletons = st.singletons
  nscopes : st3.nscopes = st.nscopes
  log : ∃ n outs, st3.log = st.log ++ [.ctor d.id d.ctor n s args outs]

theorem CallLogged.logged (st : State) (s : Nat) (d : Desc) (args : List Val) (n : Nat) (outs : List Inst) :
    CallLogged st (logEv (bumpInv st d.ctor) (.ctor d.id d.ctor n s args outs)) s d args := by
  unfold logEv bumpInv
  exact ⟨rfl, rfl, rfl, rfl, n, outs, rfl⟩

theorem CallLogged.alloc (st : State) (s : Nat) (d : Desc) (args : List Val) (k n : Nat) (outs : List Inst) :
    CallLogged st (logEv (Container.alloc (bumpInv st d.ctor) k d.ctor n) (.ctor d.id d.ctor n s args outs)) s d args := by
  -- unfolded first: `rfl` through the three folded updates is slow to check
  unfold logEv Container.alloc bumpInv
  exact ⟨rfl, rfl, rfl, rfl, n, outs, rfl⟩

theorem construct (beh : Beh) {st : State} (wf : WF st.descs) (reg : RegWF st.descs) {d : Desc}
    (hd : d ∈ st.descs) (w : R.Writes s st.descs d) (args : List Val) :
    (∃ n how e, Container.construct beh st s d args =
      (logEv (bumpInv st d.ctor) (.ctorFail d.id d.ctor n s how), .error e)) ∨
    ∃ st3, CallLogged st st3 s d args ∧ (R.Pre st3 → R.Step st3 (Container.construct beh st s d args).1 ∧
      ∀ x ∈ st.descs, x.ctor = d.ctor → R.Stored (Container.construct beh st s d args).1 x) := by
  refine construct_result_cases beh st s d args (B := (· = bumpInv st d.ctor))
    (P := fun r => (∃ n how e, r = (logEv (bumpInv st d.ctor) (.ctorFail d.id d.ctor n s how), .error e)) ∨
      ∃ st3, CallLogged st st3 s d args ∧
        (R.Pre st3 → R.Step st3 r.1 ∧ ∀ x ∈ st.descs, x.ctor = d.ctor → R.Stored r.1 x)) rfl ?_ ?_ ?_ ?_
  · rintro _ n how e rfl
    exact .inl ⟨n, how, e, rfl⟩
  · rintro _ n res hvoid rfl _
    refine .inr ⟨_, .logged st s d args n [], fun hPre => ?_⟩
    obtain ⟨h1, h1s, _⟩ := w.set _ d hd rfl .unit hPre
    refine ⟨h1, fun x hx hc => ?_⟩
    rcases reg.sameCtor_sib wf hd hx hc with h | h
    · rw [h]; exact h1s
    · rw [reg.voidAlone d hd hvoid] at h
      exact absurd h.1 List.not_mem_nil
  · rintro _ n _ _ nil? res _ rfl rfl rfl _
    have h0 := reg.regOf_sameCtor hd
    refine .inr ⟨_, .alloc st s d args (valued (regOf st d) nil?).length n
      (allocOuts (bumpInv st d.ctor).next (valued (regOf st d) nil?).length), fun hPre => ?_⟩
    obtain ⟨h, hs⟩ := R.resultObject _ (regOf st d) (allocOuts (bumpInv st d.ctor).next (valued (regOf st d) nil?).length)
      nil? (Nat.le_of_eq (allocOuts_length ..).symm) hPre
      (fun st' x hx o => w.set st' x (h0 x hx).1 (h0 x hx).2 (.inst o))
      (fun st' x hx => w.share st' x (h0 x hx).1 (h0 x hx).2 .absent)
    exact ⟨h, fun x hx hc => hs x (reg.sameCtor_regOf wf hd hx hc)⟩
  · rintro _ n _ _ rfl
    exact .inr ⟨_, .alloc st s d args 1 n [(bumpInv st d.ctor).next], fun hPre => R.provideValue wf reg hd w _ hPre rfl⟩

end StoreRel

end Godi.Container
