import GodiProofs.Container.BuildTotal
import GodiProofs.Props.C06
/-!
# The order the topological sort delivers is a creation order

`ValidOrder (buildGraph descs) l` (`Props/C06`: `l` lists every graph node once, every dependency of a node before the
node) is what `TopologicalSort` returns for the graph Build made. Mapped to descriptor ids (`orderIds`), it lists every
registration, and every singleton *after* every singleton it reaches through declared dependencies — plain, keyed,
parameter-object fields, and through a group's node every member — passing through non-singleton registrations. So it
satisfies the two premises of `build_succeeds`: with the order Build itself computes, a valid registration set whose
constructors succeed is built successfully.
-/
namespace Godi.Container
open Godi.Graph Godi.Spec
open Godi.Kahn (Key)
open Godi.Props.C06 (ValidOrder)

/-- the id of the registration whose node has key `k`; a group's node has none -/
def keyToId (descs : List Desc) (k : Key) : Option Nat :=
  (descs.find? (fun d => encode d.ident == k)).map (·.id)

/-- the creation order: the sorted node keys that belong to registrations, as descriptor ids -/
def orderIds (descs : List Desc) (l : List Key) : List Nat := l.filterMap (keyToId descs)

/-- `b` comes before `a` in `l`, and only `a` is sent to `x`: then what `b` is sent to comes before `x` in the
filtered list -/
theorem filterMap_before {f : Nat → Option Nat} {a b x y : Nat} (hx : ∀ c, f c = some x → c = a) (hy : f b = some y) :
    ∀ (l : List Nat) (pre post : List Nat), b ∈ l → l.idxOf b < l.idxOf a → l.filterMap f = pre ++ x :: post → y ∈ pre := by
  intro l
  induction l with
  | nil => intro _ _ hb; cases hb
  | cons c rest ih =>
    intro pre post hb hlt ho
    -- the head is not `a`, and what it is sent to (if anything) is the head of `pre`
    have hca : c ≠ a := by
      rintro rfl
      rw [List.idxOf_cons_self] at hlt
      exact Nat.not_lt_zero _ hlt
    have hfc : ∀ z, f c = some z → ∃ pre', pre = z :: pre' ∧ rest.filterMap f = pre' ++ x :: post := by
      intro z hz
      rw [List.filterMap_cons, hz] at ho
      cases pre with
      | nil => injection ho with h1; exact absurd (hx c (h1 ▸ hz)) hca
      | cons p pre' => injection ho with h1 h2; exact ⟨pre', by rw [h1], h2⟩
    by_cases hcb : c = b
    · obtain ⟨pre', rfl, _⟩ := hfc y (hcb ▸ hy)
      exact List.mem_cons_self
    · have hb' : b ∈ rest := (List.mem_cons.1 hb).resolve_left (fun h => hcb h.symm)
      have e : ∀ k, c ≠ k → (c :: rest).idxOf k = rest.idxOf k + 1 := fun k hk => by
        rw [List.idxOf_cons, beq_eq_false_iff_ne.2 hk]; rfl
      rw [e b hcb, e a hca] at hlt
      have hlt' := Nat.lt_of_succ_lt_succ hlt
      cases hz : f c with
      | none =>
        rw [List.filterMap_cons, hz] at ho
        exact ih pre post hb' hlt' ho
      | some z =>
        obtain ⟨pre', rfl, ho'⟩ := hfc z hz
        exact List.mem_cons_of_mem _ (ih pre' post hb' hlt' ho')

/-! ### keys and registrations -/

attribute [local irreducible] encode

theorem descKeys_nodup {descs : List Desc} (hk : KeysDistinct descs) : (descs.map (fun d => encode d.ident)).Nodup := by
  unfold KeysDistinct graphInput at hk
  simp only [List.map_append, List.map_map] at hk
  exact (List.nodup_append.1 hk).1

theorem keyToId_of_mem {descs : List Desc} (hk : KeysDistinct descs) {d : Desc} (hd : d ∈ descs) :
    keyToId descs (encode d.ident) = some d.id := by
  unfold keyToId
  cases hf : descs.find? (fun x => encode x.ident == encode d.ident) with
  | none =>
    have := List.find?_eq_none.1 hf d hd
    exact absurd (beq_self_eq_true (encode d.ident)) this
  | some d0 =>
    have hd0 : d0 ∈ descs := List.mem_of_find?_eq_some hf
    have he : encode d0.ident = encode d.ident := by
      have h0 := List.find?_some hf
      exact eq_of_beq h0
    rw [Coll.nodup_map_inj (fun x => encode x.ident) (descKeys_nodup hk) hd0 hd he]
    rfl

theorem keyToId_some {descs : List Desc} {k : Key} {i : Nat} (h : keyToId descs k = some i) :
    ∃ d ∈ descs, encode d.ident = k ∧ d.id = i := by
  unfold keyToId at h
  cases hf : descs.find? (fun x => encode x.ident == k) with
  | none => rw [hf] at h; cases h
  | some d0 =>
    rw [hf] at h
    simp only [Option.map_some, Option.some.injEq] at h
    have h0 := List.find?_some hf
    exact ⟨d0, List.mem_of_find?_eq_some hf, eq_of_beq h0, h⟩

/-! ### along the dependencies the sorted order decreases -/

theorem provides_idx_lt {descs : List Desc} (hk : KeysDistinct descs) (hdk : DepKeys descs) {l : List Key}
    (hv : ValidOrder (buildGraph descs) l) {d t : Desc} {dep : Dep} (hd : d ∈ descs) (hdep : dep ∈ d.deps)
    (hp : Provides descs dep t) : encode t.ident ∈ l ∧ l.idxOf (encode t.ident) < l.idxOf (encode d.ident) := by
  have hdl : encode d.ident ∈ l := hv.1.mem_iff.2 (desc_node descs d hd)
  rcases provides_path descs hk hdk hd hdep hp with e | ⟨e1, e2⟩
  · exact hv.2 _ hdl _ e
  · obtain ⟨m1, i1⟩ := hv.2 _ hdl _ e1
    obtain ⟨m2, i2⟩ := hv.2 _ m1 _ e2
    exact ⟨m2, Nat.lt_trans i2 i1⟩

theorem reach_idx_lt {descs : List Desc} (hk : KeysDistinct descs) (hdk : DepKeys descs) {l : List Key}
    (hv : ValidOrder (buildGraph descs) l) : ∀ {d t : Desc}, d ∈ descs → ReachLong descs d t →
    encode t.ident ∈ l ∧ l.idxOf (encode t.ident) < l.idxOf (encode d.ident) := by
  intro d t hd hr
  induction hr with
  | direct hdep hp => exact provides_idx_lt hk hdk hv hd hdep hp
  | via hdep hp _ _ ih =>
    obtain ⟨a, b⟩ := ih (provides_mem hp)
    exact ⟨a, Nat.lt_trans b (provides_idx_lt hk hdk hv hd hdep hp).2⟩

/-- the sorted order is a creation order: it lists every singleton, each after the singletons it reaches -/
theorem sorted_order_is_creation_order (descs : List Desc) (wf : WF descs) (hk : KeysDistinct descs) (hdk : DepKeys descs)
    (l : List Key) (hv : ValidOrder (buildGraph descs) l) :
    (∀ d ∈ descs, d.life = .singleton → d.id ∈ orderIds descs l) ∧
    (∀ pre id post, orderIds descs l = pre ++ id :: post → ∀ d, findDesc descs id = some d → d.life = .singleton →
      ∀ t, ReachLong descs d t → t.life = .singleton → t.id ∈ pre) := by
  refine ⟨?_, ?_⟩
  · intro d hd _
    exact List.mem_filterMap.2 ⟨encode d.ident, hv.1.mem_iff.2 (desc_node descs d hd), keyToId_of_mem hk hd⟩
  · intro pre id post ho d hfd _ t hr _
    have hd : d ∈ descs := findDesc_mem hfd
    obtain ⟨htl, hlt⟩ := reach_idx_lt hk hdk hv hd hr
    refine filterMap_before (f := keyToId descs) (a := encode d.ident) ?_ (keyToId_of_mem hk (reachLong_mem hr)) l pre post
      htl hlt ho
    -- ids are unique: only the key of `d` is sent to `id`
    intro c hc
    obtain ⟨d', hd', rfl, hid⟩ := keyToId_some hc
    have := wf.uniqueIds d' hd'
    rw [hid, hfd] at this
    rw [Option.some.inj this]

/-- Build succeeds with the order it computes itself -/
theorem build_succeeds_with_sorted_order (beh : Beh) (gb : GoodBeh beh) (descs : List Desc)
    (hyp : failedHyps descs = []) (hv : verdict descs = .ok) (l : List Key) (hl : ValidOrder (buildGraph descs) l) :
    (build beh descs (orderIds descs l)).2 = .ok () := by
  obtain ⟨wf, _, _, _, hk, _, _, _, _, hdk⟩ := hyps_of_check hyp
  obtain ⟨hall, hord⟩ := sorted_order_is_creation_order descs wf hk hdk l hl
  exact build_succeeds beh gb descs (orderIds descs l) hyp hv hall hord

theorem addAll_eq_addAllDeferred : ∀ (regs : List (Key × Nat × List Key)) (g : Graph),
    Godi.Props.C06.addAll g regs = addAllDeferred g regs := by
  intro regs
  induction regs with
  | nil => intro g; rfl
  | cons r rest ih =>
    intro g
    obtain ⟨k, p, ds⟩ := r
    show Godi.Props.C06.addAll (addProviderDeferred g k p ds) rest = addAllDeferred (addProviderDeferred g k p ds) rest
    exact ih _

/-- End to end: phases 1-3 of Build on the model (deferred adds, cycle detection, the topological sort, in any map
iteration orders) hand the creation loop an order with which Build succeeds. -/
theorem build_succeeds_with_the_order_the_sort_returns (beh : Beh) (gb : GoodBeh beh) (descs : List Desc)
    (hyp : failedHyps descs = []) (hv : verdict descs = .ok)
    (eorder norder norder2 : List Key) (g1 g2 : Graph) (r : CycleRes) (l : List Key)
    (he : eorder.Perm (buildGraph descs).ekeys) (hn : norder2.Perm (buildGraph descs).nodes)
    (h1 : detectCyclesWith (buildGraph descs) eorder norder = (g1, r))
    (h2 : topologicalSortWith g1 norder2 = (g2, some l)) :
    (build beh descs (orderIds descs l)).2 = .ok () := by
  have e : buildGraph descs = Godi.Props.C06.addAll {} (graphInput descs) := (addAll_eq_addAllDeferred _ _).symm
  rw [e] at he hn h1
  have hvo := Godi.Props.C06.build_order_valid (graphInput descs) eorder norder norder2 g1 g2 r l he hn h1 h2
  rw [← e] at hvo
  exact build_succeeds_with_sorted_order beh gb descs hyp hv l hvo

end Godi.Container
