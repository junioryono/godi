import GodiProofs.Container.TreeBuild
import GodiProofs.Container.NoNotFound
import GodiProofs.Container.HypSound
/-!
# Build succeeds on every valid registration set whose constructors succeed

The converse half of C08. `GoodBeh`: every constructor invocation succeeds and no result-object field is left
nil. Under it, for a registry that passed validation (no cycle, no missing required dependency) with the
structural guarantees of the collection:

* `Keep`: resolution and construction never cache a "constructed without value" marker and never lose an entry
  of the singleton table;
* `okOrFuel_all`: a resolution / construction in an open scope, all of whose singleton dependencies (reached through
  non-singleton registrations) are stored, either succeeds or runs out of fuel (`okOrFuel`) — and it does not run out
  of fuel (`Terminates.lean`), so it succeeds (`createInstance_succeeds`);
* `build_state`: the singleton-creation loop of Build, walking a creation order in which every singleton comes
  after the singletons it reaches, and the initializers of the root scope therefore succeed: `build … = ok`.
-/
namespace Godi.Container

structure GoodBeh (beh : Beh) : Prop where
  ctor : ∀ c n, beh.ctor c n = .ok
  nilField : ∀ c n, beh.nilField c n = none

/-- no identity is cached as constructed-without-value (`Val.absent`, what `markAbsent` writes) -/
def NoAbs (m : List (Ident × Val)) : Prop := ∀ k, lookup m k ≠ some .absent

structure NoAbsent (st : State) : Prop where
  sing : NoAbs st.singletons
  inst : ∀ x, NoAbs ((st.scope x).instances.getD [])

theorem noAbs_put {m : List (Ident × Val)} (h : NoAbs m) (k : Ident) (v : Val) (hv : v ≠ .absent) : NoAbs (cachePut m k v) := by
  intro k'
  by_cases hk : k' = k
  · subst hk; rw [lookup_put_self]; intro e; exact hv (Option.some.inj e)
  · rw [lookup_put_ne m k k' v hk]; exact h k'

/-- what resolution keeps: no absent marker anywhere, the singleton table only grows -/
structure Keep (st st' : State) : Prop where
  noAbs : NoAbsent st → NoAbsent st'
  grows : Grows st.singletons st'.singletons

theorem Keep.refl (st : State) : Keep st st := ⟨fun h => h, Grows.refl _⟩
theorem Keep.trans {a b c : State} (h1 : Keep a b) (h2 : Keep b c) : Keep a c :=
  ⟨fun h => h2.noAbs (h1.noAbs h), h1.grows.trans h2.grows⟩

theorem keep_of_eq {st st' : State} (hs : st'.singletons = st.singletons) (hsc : st'.scope = st.scope) : Keep st st' :=
  ⟨fun h => ⟨by rw [hs]; exact h.sing, fun x => by rw [hsc]; exact h.inst x⟩, by rw [hs]; exact Grows.refl _⟩

theorem keep_updScope (st : State) (s : Nat) (g : ScopeSt → ScopeSt)
    (hi : ∀ sc, NoAbs (sc.instances.getD []) → NoAbs ((g sc).instances.getD [])) : Keep st (updScope st s g) := by
  refine ⟨fun h => ⟨h.sing, fun x => ?_⟩, Grows.refl _⟩
  rw [scope_upd]; split
  next hx => subst hx; exact hi _ (h.inst x)
  · exact h.inst x

theorem keep_putInstance (st : State) (s : Nat) (k : Ident) (v : Val) (hv : v ≠ .absent) : Keep st (putInstance st s k v) :=
  keep_updScope st s _ fun sc h => by
    cases hm : sc.instances with
    | none => exact fun _ => nofun
    | some m => rw [hm] at h; exact noAbs_put h k v hv

theorem keep_storeSingleton (st : State) (k : Ident) (v : Val) (hv : v ≠ .absent) : Keep st (storeSingleton st k v) :=
  ⟨fun h => ⟨noAbs_put h.sing k v hv, h.inst⟩, grows_put _ _ _⟩

theorem keep_track (st : State) (s : Nat) (v : Val) (disp : Bool) : Keep st (track st s v disp).1 := by
  unfold track
  split
  · split
    · split
      · exact keep_of_eq rfl rfl
      · exact Keep.refl st
    · split
      · dsimp only
        exact keep_updScope st s _ (fun _ h => h)
      · exact Keep.refl st
  · split <;> exact Keep.refl st

theorem keep_setInstance (st : State) (s : Nat) (d : Desc) (k : Ident) (v : Val) (hv : v ≠ .absent) :
    Keep st (setInstance st s d k v).1 := by
  unfold setInstance
  split
  · have h1 := keep_storeSingleton st k v hv
    split
    · split
      · exact h1.trans (keep_of_eq rfl rfl)
      · exact h1
    · exact h1
  · exact (keep_putInstance st s k v hv).trans (keep_track _ s v d.disp)
  · exact keep_track st s v d.disp

theorem keep_shareInstance (st : State) (s : Nat) (d : Desc) (k : Ident) (v : Val) (hv : v ≠ .absent) :
    Keep st (shareInstance st s d k v) := by
  unfold shareInstance
  split
  · exact keep_storeSingleton st k v hv
  · exact keep_putInstance st s k v hv
  · exact Keep.refl st

theorem keep_storeOuts (s : Nat) (sibs : List Desc) (outs : List Inst) (st : State) : Keep st (storeOuts st s sibs outs).1 :=
  storeOuts_keeps (P := (Keep st ·)) sibs outs st
    (fun _ d _ o _ k => k.trans (keep_setInstance _ s d d.ident (.inst o) nofun)) (Keep.refl st)

theorem keep_shareAll (s self : Nat) (v : Val) (hv : v ≠ .absent) (sibs : List Desc) (st : State) :
    Keep st (shareAll st s self sibs v) :=
  shareAll_keeps (P := (Keep st ·)) self sibs st (fun _ d _ k => k.trans (keep_shareInstance _ s d d.ident v hv)) (Keep.refl st)

theorem provideValue_keep (st : State) (s : Nat) (d : Desc) (v : Inst) : Keep st (provideValue st s d v).1 := by
  have h1 := keep_setInstance st s d d.ident (.inst v) nofun
  unfold provideValue
  dsimp only
  split
  · exact h1
  · exact h1.trans (keep_shareAll s d.id (.inst v) nofun _ _)

theorem keep_bumpInv (st : State) (c : Nat) : Keep st (bumpInv st c) := keep_of_eq rfl rfl
theorem keep_logEv (st : State) (e : Event) : Keep st (logEv st e) := keep_of_eq rfl rfl
theorem keep_alloc (st : State) (k c n : Nat) : Keep st (alloc st k c n) := keep_of_eq rfl rfl

theorem construct_keep (beh : Beh) (gb : GoodBeh beh) (st : State) (s : Nat) (d : Desc) (args : List Val) :
    Keep st (construct beh st s d args).1 := by
  have h2 := keep_bumpInv st d.ctor
  unfold construct
  dsimp only
  split
  · exact h2.trans (keep_logEv _ _)
  · exact h2.trans (keep_logEv _ _)
  · exact h2.trans (keep_logEv _ _)
  · split
    · exact (h2.trans (keep_logEv _ _)).trans (keep_setInstance _ s d d.ident .unit nofun)
    · rw [gb.nilField, markAbsent_none]
      exact ((h2.trans (keep_alloc _ _ _ _)).trans (keep_logEv _ _)).trans (keep_storeOuts s _ _ _)
    · exact ((h2.trans (keep_alloc _ _ _ _)).trans (keep_logEv _ _)).trans (provideValue_keep _ s d _)

theorem keep_all (beh : Beh) (gb : GoodBeh beh) : ∀ fuel,
    (∀ st s ty key, Keep st (resolve beh fuel st s ty key).1) ∧
    (∀ st s d, Keep st (resolveDesc beh fuel st s d).1) ∧
    (∀ st s ty grp, Keep st (getGroup beh fuel st s ty grp).1) ∧
    (∀ st s ds acc, Keep st (resolveMembers beh fuel st s ds acc).1) ∧
    (∀ st s deps acc, Keep st (buildArgs beh fuel st s deps acc).1) ∧
    (∀ st s d, Keep st (createInstance beh fuel st s d).1) :=
  Rule.ofAllSteps beh Keep.refl Keep.trans provideValue_keep (construct_keep beh gb)

/-! ### storing succeeds in an open scope -/

theorem construct_ok_of_open (beh : Beh) (gb : GoodBeh beh) (st : State) (s : Nat) (d : Desc) (args : List Val)
    (h : (st.scope s).disposed = false)
    (hself : ((if (d.sibs.filterMap (findDesc st.descs)).isEmpty then [d]
      else d.sibs.filterMap (findDesc st.descs)).map (·.id)).contains d.id = true) :
    ∃ v, (construct beh st s d args).2 = .ok v := by
  unfold construct
  simp only [gb.ctor, gb.nilField]
  rw [bumpInv_descs]
  -- counting the invocation, allocating and logging leave the scopes as they are: `h` speaks of the state stored into
  split
  · rw [(setInstance_answer ..).ok]
    · exact ⟨_, rfl⟩
    · exact h
  · rw [(storeOuts_answer ..).ok, if_pos hself]
    · exact ⟨_, rfl⟩
    · exact h
  · rw [(setInstance_answer ..).ok]
    · exact ⟨_, rfl⟩
    · exact h

/-! ### the success lemma -/

/-- succeeded, or ran out of fuel -/
def okOrFuel {α} : Except Err α → Bool
  | .ok _ => true
  | .error e => e.contains Layer.fuel

theorem okOrFuel_cons {α β} (l : Layer) (e : Err) (h : okOrFuel (.error e : Except Err β) = true) :
    okOrFuel (.error (l :: e) : Except Err α) = true := by
  unfold okOrFuel at *
  simp only [List.contains_cons, Bool.or_eq_true]
  exact Or.inr h

def StoredS (st : State) (t : Desc) : Prop := (lookup st.singletons t.ident).isSome

/-- `t` is reached from `d` along declared dependencies that pass through non-singleton registrations only -/
inductive ReachLong (descs : List Desc) : Desc → Desc → Prop
  | direct {d t : Desc} {dep : Dep} : dep ∈ d.deps → Provides descs dep t → ReachLong descs d t
  | via {d m t : Desc} {dep : Dep} : dep ∈ d.deps → Provides descs dep m → m.life ≠ .singleton → ReachLong descs m t →
      ReachLong descs d t

/-- every singleton `d` leads to is stored: constructing `d` will not meet "singleton not initialized" -/
def SingReady (descs : List Desc) (st : State) (d : Desc) : Prop :=
  ∀ t, ReachLong descs d t → t.life = .singleton → StoredS st t

/-- `t` can be resolved: it is a stored singleton, or every singleton it leads to is stored -/
def ReadyDesc (descs : List Desc) (st : State) (t : Desc) : Prop :=
  (t.life = .singleton → StoredS st t) ∧ (t.life ≠ .singleton → SingReady descs st t)

theorem StoredS.keep {st st' : State} {t : Desc} (k : Keep st st') (h : StoredS st t) : StoredS st' t := k.grows _ h

theorem SingReady.keep {descs : List Desc} {st st' : State} {d : Desc} (k : Keep st st') (h : SingReady descs st d) :
    SingReady descs st' d := fun t ht hl => (h t ht hl).keep k

theorem ReadyDesc.keep {descs : List Desc} {st st' : State} {d : Desc} (k : Keep st st') (h : ReadyDesc descs st d) :
    ReadyDesc descs st' d := ⟨fun hl => (h.1 hl).keep k, fun hl => (h.2 hl).keep k⟩

theorem readyDesc_of_singReady {descs : List Desc} {st : State} {d t : Desc} {dep : Dep} (h : SingReady descs st d)
    (hdep : dep ∈ d.deps) (hp : Provides descs dep t) : ReadyDesc descs st t :=
  ⟨fun hl => h t (.direct hdep hp) hl, fun hl u hu hul => h u (.via hdep hp hl hu) hul⟩

/-- the state the success lemma speaks of: over the registry `descs`, scope `s` open, no absent marker -/
structure Cond (descs : List Desc) (st : State) (s : Nat) : Prop where
  descsEq : st.descs = descs
  isOpen : (st.scope s).disposed = false
  noAbs : NoAbsent st

theorem Cond.next {descs : List Desc} {st st' : State} {s : Nat} (c : Cond descs st s) (hd : st'.descs = st.descs)
    (tf : TFrame st st') (k : Keep st st') : Cond descs st' s :=
  ⟨hd.trans c.descsEq, by rw [tf.disp]; exact c.isOpen, k.noAbs c.noAbs⟩

/-- a multi-output constructor stores a value for the registration itself (`RegWF.selfIn`), so its answer is that value
and not "no services produced" -/
theorem self_in_sibs (descs : List Desc) (wf : WF descs) (rw' : RegWF descs) (d : Desc) (hd : d ∈ descs) :
    ((if (d.sibs.filterMap (findDesc descs)).isEmpty then [d] else d.sibs.filterMap (findDesc descs)).map (·.id)).contains d.id = true := by
  rcases rw'.selfIn d hd with h | h
  · simp [h]
  · have hm : d ∈ d.sibs.filterMap (findDesc descs) := List.mem_filterMap.2 ⟨d.id, h, wf.uniqueIds d hd⟩
    have hne : (d.sibs.filterMap (findDesc descs)).isEmpty = false := by
      cases hl : d.sibs.filterMap (findDesc descs) with
      | nil => rw [hl] at hm; cases hm
      | cons _ _ => rfl
    simp only [hne, Bool.false_eq_true, ↓reduceIte, List.contains_eq_mem, decide_eq_true_eq]
    exact List.mem_map_of_mem hm

/-- As in `noNotFound`, `resolve` may still answer "not found" for the very identity it was asked for. -/
theorem okOrFuel_all (beh : Beh) (gb : GoodBeh beh) (descs : List Desc) (wf : WF descs) (rw' : RegWF descs) (hp : Present descs) :
    ∀ fuel,
    (∀ st s ty key, Cond descs st s → (∀ t, findService descs ty key = some t → ReadyDesc descs st t) →
      okOrFuel (resolve beh fuel st s ty key).2 = true ∨
      ((resolve beh fuel st s ty key).2 = .error [.resolution, .notFound] ∧ findService descs ty key = none ∧
        ¬(key = 0 ∧ ty < 3))) ∧
    (∀ st s t, Cond descs st s → t ∈ descs → ReadyDesc descs st t → okOrFuel (resolveDesc beh fuel st s t).2 = true) ∧
    (∀ st s ty grp, Cond descs st s → (∀ m ∈ groupMembers descs ty grp, ReadyDesc descs st m) →
      okOrFuel (getGroup beh fuel st s ty grp).2 = true) ∧
    (∀ st s ms acc, Cond descs st s → (∀ m ∈ ms, m ∈ descs ∧ ReadyDesc descs st m) →
      okOrFuel (resolveMembers beh fuel st s ms acc).2 = true) ∧
    (∀ st s deps acc, Cond descs st s →
      (∀ dep ∈ deps, DepPresent descs dep ∧ ∀ t, Provides descs dep t → ReadyDesc descs st t) →
      okOrFuel (buildArgs beh fuel st s deps acc).2 = true) ∧
    (∀ st s d, Cond descs st s → d ∈ descs → SingReady descs st d → okOrFuel (createInstance beh fuel st s d).2 = true) := by
  intro fuel
  induction fuel with
  | zero => exact ⟨fun _ _ _ _ _ _ => .inl rfl, fun _ _ _ _ _ _ => rfl, fun _ _ _ _ _ _ => rfl, fun _ _ _ _ _ _ => rfl,
      fun _ _ _ _ _ _ => rfl, fun _ _ _ _ _ _ => rfl⟩
  | succ f ih =>
    obtain ⟨ihR, ihD, ihG, ihM, ihA, ihC⟩ := ih
    have D := descs_frame beh f
    have T := tframe_all beh f
    have K := keep_all beh gb f
    refine ⟨?_, ?_, ?_, ?_, ?_, ?_⟩
    · intro st s ty key c hready
      rcases resolve_succ beh st s ty key with ⟨d, hd, e⟩ | ⟨r, e, hr⟩
      · rw [c.descsEq] at hd
        rw [e]; exact .inl (ihD st s d c (findService_mem hd) (hready d hd))
      · rw [e]
        rcases hr with ⟨_, h⟩ | ⟨⟨_, rfl⟩, _⟩ | h
        · rw [c.isOpen] at h; cases h
        · exact .inl rfl
        · exact .inr (c.descsEq ▸ h)
    · intro st s t c ht hready
      unfold resolveDesc
      split
      next hl =>
        split
        next h => exact absurd h (c.noAbs.sing t.ident)
        · rfl
        next h =>
          have := hready.1 hl
          unfold StoredS at this
          rw [h] at this; cases this
      next hl =>
        split
        next h => exact absurd h (c.noAbs.inst s t.ident)
        · rfl
        · exact ihC st s t c ht (hready.2 (by rw [hl]; simp))
      next hl => exact ihC st s t c ht (hready.2 (by rw [hl]; simp))
    · intro st s ty grp c hready
      unfold getGroup
      rw [if_neg (by rw [c.isOpen]; simp), c.descsEq]
      exact ihM st s _ [] c (fun m hm => ⟨groupMembers_mem hm, hready m hm⟩)
    · intro st s ms acc c hms
      cases ms with
      | nil => unfold resolveMembers; rfl
      | cons d rest =>
        rw [resolveMembers_cons]
        obtain ⟨hd, hrd⟩ := hms d (List.mem_cons_self ..)
        refine membersStep_of (P := fun x => okOrFuel x = true) (fun e => okOrFuel_cons _ e) _ _ acc (ihD st s d c hd hrd)
          (fun acc' => ihM _ s rest acc' (c.next (D.2.1 st s d) (T.2.1 st s d) (K.2.1 st s d)) ?_)
        exact fun m hm => ⟨(hms m (List.mem_cons_of_mem _ hm)).1, (hms m (List.mem_cons_of_mem _ hm)).2.keep (K.2.1 st s d)⟩
    · intro st s deps acc c hdeps
      cases deps with
      | nil => unfold buildArgs; rfl
      | cons dep rest =>
        rw [buildArgs_cons]
        obtain ⟨hpres, hprov⟩ := hdeps dep (List.mem_cons_self ..)
        have ck : Cond descs (if dep.grp != 0 then getGroup beh f st s dep.ty dep.grp else resolve beh f st s dep.ty dep.key).1 s ∧
            Keep st (if dep.grp != 0 then getGroup beh f st s dep.ty dep.grp else resolve beh f st s dep.ty dep.key).1 := by
          split
          · exact ⟨c.next (D.2.2.1 st s _ _) (T.2.2.1 st s _ _) (K.2.2.1 st s _ _), K.2.2.1 st s _ _⟩
          · exact ⟨c.next (D.1 st s _ _) (T.1 st s _ _) (K.1 st s _ _), K.1 st s _ _⟩
        refine argsStep_of (P := fun x => okOrFuel x = true) (Q := fun x => okOrFuel x = true) (fun _ h => h) dep _ _ acc ?_
          (fun acc' => ihA _ s rest acc' ck.1 (fun x hx =>
            ⟨(hdeps x (List.mem_cons_of_mem _ hx)).1, fun t ht => ((hdeps x (List.mem_cons_of_mem _ hx)).2 t ht).keep ck.2⟩))
        split
        next hg => exact .inl (ihG st s dep.ty dep.grp c (fun m hm => hprov m (.inl ⟨by simpa using hg, hm⟩)))
        next hg =>
          have hg' : dep.grp = 0 := by simpa using hg
          exact hpres.answer (P := fun x => okOrFuel x = true) hg'
            (ihR st s dep.ty dep.key c (fun t ht => hprov t (.inr ⟨hg', ht⟩)))
    · intro st s d c hd hready
      rw [createInstance_succ]
      split
      · rw [provideValue_answer, (setInstance_answer ..).ok c.isOpen]; rfl
      · dsimp only
        have hA := ihA st s d.deps [] c (fun dep hdep => ⟨hp d hd dep hdep, fun t ht => readyDesc_of_singReady hready hdep ht⟩)
        have cA := c.next (D.2.2.2.2.1 st s d.deps []) (T.2.2.2.2.1 st s d.deps []) (K.2.2.2.2.1 st s d.deps [])
        split
        next e he => rw [he] at hA; exact okOrFuel_cons _ _ hA
        · obtain ⟨v, hv⟩ := construct_ok_of_open beh gb _ s d _ cA.isOpen (by rw [cA.descsEq]; exact self_in_sibs descs wf rw' d hd)
          rw [hv]; rfl

/-! ### success, for real: not out of fuel either -/

theorem ok_of_okOrFuel {α} (r : Except Err α) (h1 : okOrFuel r = true) (h2 : noFuel r = true) : ∃ v, r = .ok v := by
  cases r with
  | ok v => exact ⟨v, rfl⟩
  | error e =>
    have a : e.contains Layer.fuel = true := h1
    have b : (!e.contains Layer.fuel) = true := h2
    rw [a] at b; cases b

theorem reachLong_mem {descs : List Desc} {d t : Desc} (h : ReachLong descs d t) : t ∈ descs := by
  induction h with
  | direct _ hp => exact provides_mem hp
  | via _ _ _ _ ih => exact ih

/-- the hypotheses on the registry, bundled -/
structure Valid (descs : List Desc) : Prop where
  wf : WF descs
  reg : RegWF descs
  present : Present descs
  ranked : ∃ rank, Ranked descs rank

theorem valid_of_check (descs : List Desc) (hyp : failedHyps descs = []) (hv : verdict descs = .ok) : Valid descs := by
  obtain ⟨wf, rw', _, _, hk, _, _, _, hs, hdk⟩ := hyps_of_check hyp
  exact ⟨wf, rw', present_of_verdict descs hv, ⟨_, ranked_of_verdict descs hk hs hdk (by rw [hv]; intro h; cases h)⟩⟩

/-- a construction whose singleton dependencies are stored succeeds -/
theorem createInstance_succeeds (beh : Beh) (gb : GoodBeh beh) (descs : List Desc) (V : Valid descs) (st : State) (s : Nat)
    (c : Cond descs st s) (d : Desc) (hd : d ∈ descs) (hr : SingReady descs st d) :
    ∃ v, (createInstance beh (fuelFor st) st s d).2 = .ok v := by
  obtain ⟨rank, hrk⟩ := V.ranked
  exact ok_of_okOrFuel _ ((okOrFuel_all beh gb descs V.wf V.reg V.present (fuelFor st)).2.2.2.2.2 st s d c hd hr)
    (createInstance_settled beh descs rank hrk st c.descsEq s d hd).2

/-- what the loops of Build use of one construction: the state after it -/
theorem Cond.created {beh : Beh} (gb : GoodBeh beh) {descs : List Desc} {st : State} {s : Nat} (c : Cond descs st s)
    (d : Desc) : Cond descs (createInstance beh (fuelFor st) st s d).1 s ∧ Keep st (createInstance beh (fuelFor st) st s d).1 :=
  ⟨c.next ((descs_frame beh _).2.2.2.2.2 st s d) ((tframe_all beh _).2.2.2.2.2 st s d) ((keep_all beh gb _).2.2.2.2.2 st s d),
    (keep_all beh gb _).2.2.2.2.2 st s d⟩

theorem findDesc_id {descs : List Desc} {id : Nat} {d : Desc} (h : findDesc descs id = some d) : d.id = id := by
  have := List.find?_some h
  simpa using this

theorem createSingletons_skip (beh : Beh) (st : State) (id : Nat) (rest : List Nat) (hna : NoAbs st.singletons)
    (h : ∀ d, findDesc st.descs id = some d → d.life = .singleton → (lookup st.singletons d.ident).isSome) :
    createSingletons beh st (id :: rest) = createSingletons beh st rest := by
  conv => lhs; unfold createSingletons
  split
  · rfl
  next d hd =>
    split
    · rfl
    next hl => rw [if_neg (by simpa using hna d.ident), if_pos (h d hd (by simpa using hl))]

theorem createSingletons_create (beh : Beh) (st : State) (id : Nat) (rest : List Nat) (d : Desc)
    (hd : findDesc st.descs id = some d) (hl : d.life = .singleton) (hn : lookup st.singletons d.ident = none) (v : Val)
    (hv : (createInstance beh (fuelFor st) st rootScope d).2 = .ok v) :
    createSingletons beh st (id :: rest) = createSingletons beh (createInstance beh (fuelFor st) st rootScope d).1 rest := by
  conv => lhs; unfold createSingletons
  simp only [hd, hl, hn, hv]
  rfl

/-- the singleton-creation loop, at the point where `pre` has been dealt with and `rest` is to come -/
theorem createSingletons_succeeds (beh : Beh) (gb : GoodBeh beh) (descs : List Desc) (V : Valid descs) (order : List Nat)
    (hord : ∀ pre id post, order = pre ++ id :: post → ∀ d, findDesc descs id = some d → d.life = .singleton →
      ∀ t, ReachLong descs d t → t.life = .singleton → t.id ∈ pre) :
    ∀ (rest pre : List Nat) (st : State), order = pre ++ rest → Cond descs st rootScope →
      (∀ id ∈ pre, ∀ d, findDesc descs id = some d → d.life = .singleton → StoredS st d) →
      (createSingletons beh st rest).2 = .ok () ∧ Cond descs (createSingletons beh st rest).1 rootScope ∧
      (∀ id ∈ order, ∀ d, findDesc descs id = some d → d.life = .singleton → StoredS (createSingletons beh st rest).1 d) := by
  intro rest
  induction rest with
  | nil =>
    intro pre st ho c hst
    rw [List.append_nil] at ho
    subst ho
    exact ⟨rfl, c, hst⟩
  | cons id rest ih =>
    intro pre st ho c hst
    have step : ∀ st', Keep st st' → (∀ d, findDesc descs id = some d → d.life = .singleton → StoredS st' d) →
        ∀ x ∈ pre ++ [id], ∀ d, findDesc descs x = some d → d.life = .singleton → StoredS st' d := by
      intro st' k' hid x hx d hfd hl
      rcases List.mem_append.1 hx with h | h
      · exact (hst x h d hfd hl).keep k'
      · rw [List.mem_singleton.1 h] at hfd; exact hid d hfd hl
    have ho' : order = (pre ++ [id]) ++ rest := by rw [ho, List.append_assoc]; rfl
    by_cases hnew : ∃ d, findDesc descs id = some d ∧ d.life = .singleton ∧ lookup st.singletons d.ident = none
    · obtain ⟨d, hfd, hl, hn⟩ := hnew
      have hd : d ∈ descs := findDesc_mem hfd
      have hready : SingReady descs st d := fun t ht htl =>
        hst t.id (hord pre id rest ho d hfd hl t ht htl) t (V.wf.uniqueIds t (reachLong_mem ht)) htl
      obtain ⟨v, hv⟩ := createInstance_succeeds beh gb descs V st rootScope c d hd hready
      obtain ⟨c1, k1⟩ := c.created gb d
      have hstored : StoredS (createInstance beh (fuelFor st) st rootScope d).1 d := by
        obtain ⟨f, hf⟩ : ∃ f, fuelFor st = f + 1 := ⟨fuelFor st - 1, by unfold fuelFor; omega⟩
        have cs := createInstance_singleton beh f st rootScope d (c.descsEq ▸ V.wf) (c.descsEq ▸ V.reg) (c.descsEq ▸ hd) hl
        rw [← hf] at cs
        obtain ⟨nested, fired, _, _, _, h4⟩ := cs.count
        exact (h4 (Or.inr ⟨v, hv⟩)).2 d (c.descsEq ▸ hd) rfl
      rw [createSingletons_create beh st id rest d (c.descsEq ▸ hfd) hl hn v hv]
      exact ih _ _ ho' c1 (step _ k1 (fun d' h _ => by rw [hfd] at h; cases h; exact hstored))
    · have stored : ∀ d, findDesc descs id = some d → d.life = .singleton → StoredS st d := by
        intro d hfd hl
        cases hv : lookup st.singletons d.ident with
        | none => exact absurd ⟨d, hfd, hl, hv⟩ hnew
        | some v => unfold StoredS; rw [hv]; rfl
      rw [createSingletons_skip beh st id rest c.noAbs.sing (fun d hfd => stored d (c.descsEq ▸ hfd))]
      exact ih _ st ho' c (step st (Keep.refl st) stored)

/-- the initializers of a scope: every one succeeds once all singletons are stored -/
theorem runInitializers_succeeds (beh : Beh) (gb : GoodBeh beh) (descs : List Desc) (V : Valid descs) (s : Nat) :
    ∀ (ids : List Nat) (st : State), Cond descs st s → (∀ t ∈ descs, t.life = .singleton → StoredS st t) →
      (runInitializers beh st s ids).2 = .ok () ∧ Cond descs (runInitializers beh st s ids).1 s ∧
      Keep st (runInitializers beh st s ids).1 := by
  intro ids
  induction ids with
  | nil => intro st c _; exact ⟨rfl, c, Keep.refl st⟩
  | cons id rest ih =>
    intro st c hall
    unfold runInitializers
    rw [c.descsEq]
    split
    · exact ih st c hall
    next d hfd =>
      obtain ⟨v, hv⟩ := createInstance_succeeds beh gb descs V st s c d (findDesc_mem hfd)
        (fun t ht htl => hall t (reachLong_mem ht) htl)
      obtain ⟨c1, k1⟩ := c.created gb d
      simp only [hv]
      obtain ⟨h2, c2, k2⟩ := ih _ c1 (fun t ht htl => (hall t ht htl).keep k1)
      exact ⟨h2, c2, k1.trans k2⟩

/-- `hord`: the creation order lists every singleton after the singletons it reaches, which is what the topological
sort delivers -/
theorem build_state (beh : Beh) (gb : GoodBeh beh) (descs : List Desc) (order : List Nat)
    (hyp : failedHyps descs = []) (hv : verdict descs = .ok)
    (hall : ∀ d ∈ descs, d.life = .singleton → d.id ∈ order)
    (hord : ∀ pre id post, order = pre ++ id :: post → ∀ d, findDesc descs id = some d → d.life = .singleton →
      ∀ t, ReachLong descs d t → t.life = .singleton → t.id ∈ pre) :
    (build beh descs order).2 = .ok () ∧ Cond descs (build beh descs order).1 rootScope ∧
    ∀ t ∈ descs, t.life = .singleton → StoredS (build beh descs order).1 t := by
  have V := valid_of_check descs hyp hv
  have c0 : Cond descs (buildStart descs) rootScope :=
    ⟨rfl, by unfold buildStart; rw [alloc_scope]; simp [rootScope],
      ⟨fun k => (buildStart_holds_nothing descs).1 k _, fun x k => (buildStart_holds_nothing descs).2 x k _⟩⟩
  obtain ⟨h1, c1, hst1⟩ := createSingletons_succeeds beh gb descs V order hord order [] _ rfl c0 (fun id hid => by cases hid)
  have hn : newScope beh { descs := descs, next := firstFresh descs } none 0 false = (buildStart descs, .ok 0) := rfl
  unfold build
  rw [hv]
  unfold buildRuntime
  simp only [hn]
  generalize createSingletons beh (buildStart descs) order = r2 at h1 c1 hst1
  obtain ⟨st2, res2⟩ := r2
  dsimp only at h1
  subst h1
  dsimp only
  have hall3 : ∀ t ∈ descs, t.life = .singleton →
      StoredS { st2 with initializers := (descs.filter isInitializer).map (·.id) } t :=
    fun t ht htl => hst1 t.id (hall t ht htl) t (V.wf.uniqueIds t ht) htl
  obtain ⟨h4, c4, k4⟩ := runInitializers_succeeds beh gb descs V rootScope ((descs.filter isInitializer).map (·.id))
    { st2 with initializers := (descs.filter isInitializer).map (·.id) } ⟨c1.descsEq, c1.isOpen, ⟨c1.noAbs.sing, c1.noAbs.inst⟩⟩ hall3
  generalize runInitializers beh { st2 with initializers := (descs.filter isInitializer).map (·.id) } rootScope
    ((descs.filter isInitializer).map (·.id)) = r4 at h4 c4 k4
  obtain ⟨st4, res4⟩ := r4
  dsimp only at h4
  subst h4
  exact ⟨rfl, c4, fun t ht htl => (hall3 t ht htl).keep k4⟩

theorem build_succeeds (beh : Beh) (gb : GoodBeh beh) (descs : List Desc) (order : List Nat)
    (hyp : failedHyps descs = []) (hv : verdict descs = .ok)
    (hall : ∀ d ∈ descs, d.life = .singleton → d.id ∈ order)
    (hord : ∀ pre id post, order = pre ++ id :: post → ∀ d, findDesc descs id = some d → d.life = .singleton →
      ∀ t, ReachLong descs d t → t.life = .singleton → t.id ∈ pre) :
    (build beh descs order).2 = .ok () :=
  (build_state beh gb descs order hyp hv hall hord).1

end Godi.Container
