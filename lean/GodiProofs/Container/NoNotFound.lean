import GodiProofs.Container.Terminates
/-!
# After validation, resolution never answers "service not found" for a registered service

`Present descs` is what phase 3b of `doBuild` (`validateDependencies`) checks: every dependency that is
neither optional nor a group is registered or built in. Under it, by induction on the fuel over the six
mutually recursive resolution functions: resolving a *registered* identity (or a built-in one), resolving
a group, and constructing any registration never produce an error chain containing `notFound` — at
any depth of the dependency nesting, in any state, for every behaviour of the constructors.
An optional dependency that is not registered does produce `notFound` internally; `BuildParamObject`
tolerates exactly that (it is not a construction failure) and the chain never reaches the caller.
-/
namespace Godi.Container

abbrev noNF {α} (r : Except Err α) : Bool := avoids Layer.notFound r

/-- what `validateDependencies` asks of one declared dependency: it is optional, a group (an empty group is
allowed), built in, or registered -/
def DepPresent (descs : List Desc) (dep : Dep) : Prop :=
  dep.optional = true ∨ dep.grp ≠ 0 ∨ isBuiltin dep = true ∨ (findService descs dep.ty dep.key).isSome

def Present (descs : List Desc) : Prop := ∀ d ∈ descs, ∀ dep ∈ d.deps, DepPresent descs dep

theorem present_of_check (descs : List Desc) (h : missingDependency descs = false) : Present descs := by
  intro d hd dep hdep
  refine Classical.byContradiction fun hn => ?_
  unfold DepPresent at hn
  simp only [not_or, Bool.not_eq_true, Decidable.not_not, Option.isSome_eq_false_iff, Option.isNone_iff_eq_none] at hn
  have hm := (missingDependency_iff descs).2 ⟨d, hd, dep, hdep, hn.1, hn.2.1, hn.2.2.1, hn.2.2.2⟩
  rw [h] at hm
  cases hm

theorem present_of_verdict (descs : List Desc) (h : verdict descs = .ok) : Present descs :=
  present_of_check descs ((verdict_iff descs).2.2.2.1 h).2.2

/-- "not found" is an absence, not a failed construction: an optional field tolerates it (`argsStep`) -/
theorem nf_not_construction : isConstruction [Layer.resolution, Layer.notFound] = false := by decide

/-- the answer to a plain dependency that is present: `resolve` finds something, unless the field is optional -/
theorem DepPresent.answer {P : Except Err Val → Prop} {descs : List Desc} {dep : Dep} (hp : DepPresent descs dep)
    (hg : dep.grp = 0) {r : Except Err Val}
    (h : P r ∨ (r = .error [.resolution, .notFound] ∧ findService descs dep.ty dep.key = none ∧ ¬(dep.key = 0 ∧ dep.ty < 3))) :
    P r ∨ (dep.optional = true ∧ ∃ e, r = .error e ∧ isConstruction e = false) := by
  rcases h with h | ⟨rfl, hf, hb⟩
  · exact .inl h
  · rcases hp with ho | hgn | hbi | hfs
    · exact .inr ⟨ho, _, rfl, nf_not_construction⟩
    · exact absurd hg hgn
    · unfold isBuiltin at hbi
      simp only [Bool.and_eq_true, beq_iff_eq, decide_eq_true_eq] at hbi
      exact absurd ⟨hbi.1.1, hbi.2⟩ hb
    · rw [hf] at hfs; cases hfs

/-- the induction; `resolve` may still answer "not found", but only for the very identity it was asked for -/
theorem noNotFound (beh : Beh) (descs : List Desc) (hp : Present descs) : ∀ fuel,
    (∀ st s ty key, st.descs = descs →
      noNF (resolve beh fuel st s ty key).2 = true ∨
      ((resolve beh fuel st s ty key).2 = .error [.resolution, .notFound] ∧ findService descs ty key = none ∧
        ¬(key = 0 ∧ ty < 3))) ∧
    (∀ st s d, st.descs = descs → d ∈ descs → noNF (resolveDesc beh fuel st s d).2 = true) ∧
    (∀ st s ty grp, st.descs = descs → noNF (getGroup beh fuel st s ty grp).2 = true) ∧
    (∀ st s ds acc, st.descs = descs → (∀ d ∈ ds, d ∈ descs) → noNF (resolveMembers beh fuel st s ds acc).2 = true) ∧
    (∀ st s deps acc, st.descs = descs → (∀ dep ∈ deps, DepPresent descs dep) →
      noNF (buildArgs beh fuel st s deps acc).2 = true) ∧
    (∀ st s d, st.descs = descs → d ∈ descs → noNF (createInstance beh fuel st s d).2 = true) := by
  intro fuel
  induction fuel with
  | zero => exact ⟨fun _ _ _ _ _ => .inl rfl, fun _ _ _ _ _ => rfl, fun _ _ _ _ _ => rfl, fun _ _ _ _ _ _ => rfl,
      fun _ _ _ _ _ _ => rfl, fun _ _ _ _ _ => rfl⟩
  | succ f ih =>
    obtain ⟨ihR, ihD, ihG, ihM, ihA, ihC⟩ := ih
    refine ⟨?_, ?_, ?_, ?_, ?_, ?_⟩
    · intro st s ty key hst
      rcases resolve_succ beh st s ty key with ⟨d, hd, e⟩ | ⟨r, e, hr⟩
      · rw [e]; exact .inl (ihD st s d hst (hst ▸ findService_mem hd))
      · rw [e]
        rcases hr with ⟨rfl, _⟩ | ⟨⟨_, rfl⟩, _⟩ | h
        · exact .inl rfl
        · exact .inl rfl
        · exact .inr (hst ▸ h)
    · intro st s d hst hd
      exact resolveDesc_avoids foreign_notFound beh f st s d (ihC st s d hst hd)
    · intro st s ty grp hst
      unfold getGroup
      split
      · rfl
      · exact ihM st s _ [] hst (fun d hd => hst ▸ groupMembers_mem hd)
    · intro st s ds acc hst hds
      cases ds with
      | nil => unfold resolveMembers; rfl
      | cons d rest =>
        rw [resolveMembers_cons]
        exact membersStep_avoids foreign_notFound _ _ acc (ihD st s d hst (hds d (List.mem_cons_self ..)))
          (fun acc' => ihM _ s rest acc' (((descs_frame beh f).2.1 st s d).trans hst)
            (fun x hx => hds x (List.mem_cons_of_mem _ hx)))
    · intro st s deps acc hst hdeps
      cases deps with
      | nil => unfold buildArgs; rfl
      | cons dep rest =>
        rw [buildArgs_cons]
        refine argsStep_avoids _ dep _ _ acc ?_
          (fun acc' => ihA _ s rest acc' ?_ (fun x hx => hdeps x (List.mem_cons_of_mem _ hx)))
        · split
          · exact .inl (ihG st s dep.ty dep.grp hst)
          next hg =>
            exact (hdeps dep (List.mem_cons_self ..)).answer (P := fun x => noNF x = true) (by simpa using hg)
              (ihR st s dep.ty dep.key hst)
        · split
          · exact ((descs_frame beh f).2.2.1 st s _ _).trans hst
          · exact ((descs_frame beh f).1 st s _ _).trans hst
    · intro st s d hst hd
      exact createInstance_avoids foreign_notFound beh f st s d (ihA st s d.deps [] hst (hp d hd))

end Godi.Container
