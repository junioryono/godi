import GodiProofs.Container.Rule
/-!
# What the proofs ask of a registry

The hypotheses on the list of descriptors that the container theorems take, and the lookups. `GodiModel/Hyp.lean` has an executable checker for each; `HypSound.lean` proves the checkers sound, so an
example registry discharges them by evaluation.
-/
namespace Godi.Container

theorem findDesc_mem {descs : List Desc} {id : Nat} {d : Desc} (h : findDesc descs id = some d) : d ∈ descs :=
  List.mem_of_find?_eq_some h

theorem findService_mem {descs : List Desc} {ty key : Nat} {d : Desc} (h : findService descs ty key = some d) :
    d ∈ descs := List.mem_of_find?_eq_some h

theorem groupMembers_mem {descs : List Desc} {ty grp : Nat} {d : Desc} (h : d ∈ groupMembers descs ty grp) :
    d ∈ descs := (List.mem_filter.1 h).1

/-- descriptors of one registration share their lifetime (the collection guarantees it: one `Add*`
call, one lifetime) -/
def SibLife (descs : List Desc) : Prop :=
  ∀ d ∈ descs, ∀ sid ∈ d.sibs, ∀ sd, findDesc descs sid = some sd → sd.life = d.life

structure WF (descs : List Desc) : Prop where
  sibLife : SibLife descs
  uniqueIds : ∀ d ∈ descs, findDesc descs d.id = some d

theorem initializers_scoped (descs : List Desc) (wf : WF descs) :
    ∀ id ∈ (descs.filter isInitializer).map (·.id), ∀ d, findDesc descs id = some d → d.life = .scoped := by
  intro id hid d hf
  obtain ⟨d0, hd0, rfl⟩ := List.mem_map.1 hid
  obtain ⟨hm, hi⟩ := List.mem_filter.1 hd0
  rw [wf.uniqueIds d0 hm] at hf
  cases hf
  simp only [isInitializer, Bool.and_eq_true, beq_iff_eq] at hi
  exact hi.1

theorem sibs_life {descs : List Desc} (wf : WF descs) {d : Desc} (hd : d ∈ descs) :
    ∀ sd ∈ d.sibs.filterMap (findDesc descs), sd.life = d.life := by
  intro sd hsd
  obtain ⟨sid, hsid, hf⟩ := List.mem_filterMap.1 hsd
  exact wf.sibLife d hd sid hsid sd hf

theorem sibs_nonSingleton {descs : List Desc} (wf : WF descs) {d : Desc} (hd : d ∈ descs) (hl : d.life ≠ .singleton) :
    ∀ sd ∈ d.sibs.filterMap (findDesc descs), sd.life ≠ .singleton :=
  fun sd hsd => sibs_life wf hd sd hsd ▸ hl

theorem reg_life {descs : List Desc} (wf : WF descs) {d : Desc} (hd : d ∈ descs) {sd : Desc}
    (h : sd = d ∨ sd ∈ d.sibs.filterMap (findDesc descs)) : sd.life = d.life :=
  h.elim (fun e => by rw [e]) (sibs_life wf hd sd)

def InitOK (st : State) : Prop :=
  ∀ id ∈ st.initializers, ∀ d, findDesc st.descs id = some d → d.life = .scoped

/-- instance values are registered as singletons only (a scoped or transient instance value would be
tracked anew by every scope that resolves it; such a value is not created by the container) -/
def InstSingleton (descs : List Desc) : Prop := ∀ d ∈ descs, ∀ v, d.kind = .inst v → d.life = .singleton

/-- two registrations never hold the same instance value (the same pointer registered twice would be
owned twice) -/
def InstDistinct (descs : List Desc) : Prop :=
  ∀ d ∈ descs, ∀ d' ∈ descs, ∀ v, d.kind = .inst v → d'.kind = .inst v → d'.ctor = d.ctor

/-- registration structure: descriptors sharing a constructor are listed as siblings of each other;
a non-empty sibling list contains its owner; a void constructor registers one descriptor -/
structure RegWF (descs : List Desc) : Prop where
  sameCtor : ∀ d ∈ descs, ∀ d' ∈ descs, d'.ctor = d.ctor → d' = d ∨ d'.id ∈ d.sibs
  selfIn : ∀ d ∈ descs, d.sibs = [] ∨ d.id ∈ d.sibs
  voidAlone : ∀ d ∈ descs, d.kind = .void → d.sibs = []
  sibCtor : ∀ d ∈ descs, ∀ sid ∈ d.sibs, ∀ sd, findDesc descs sid = some sd → sd.ctor = d.ctor
  identUnique : ∀ d ∈ descs, ∀ d' ∈ descs, d'.ident = d.ident → d' = d
  /-- a value registered under several interface types: every descriptor of the registration holds it -/
  instSibs : ∀ d ∈ descs, ∀ v, d.kind = .inst v → ∀ d' ∈ descs, d'.ctor = d.ctor → d'.kind = .inst v

/-- `construct` stores a plain value for `d` itself and shares it with the other siblings: that reaches
every descriptor with `d`'s constructor -/
theorem RegWF.sameCtor_sib {descs : List Desc} (reg : RegWF descs) (wf : WF descs) {d d' : Desc} (hd : d ∈ descs)
    (hd' : d' ∈ descs) (hc : d'.ctor = d.ctor) :
    d' = d ∨ (d' ∈ d.sibs.filterMap (findDesc descs) ∧ d'.id ≠ d.id) := by
  by_cases hid : d'.id = d.id
  · have h := wf.uniqueIds d' hd'
    rw [hid, wf.uniqueIds d hd] at h
    exact .inl (Option.some.inj h).symm
  · rcases reg.sameCtor d hd d' hd' hc with h | h
    · exact .inl h
    · exact .inr ⟨List.mem_filterMap.2 ⟨d'.id, h, wf.uniqueIds d' hd'⟩, hid⟩

theorem RegWF.ctor_life {descs : List Desc} (reg : RegWF descs) (wf : WF descs) {d d' : Desc} (hd : d ∈ descs)
    (hd' : d' ∈ descs) (hc : d'.ctor = d.ctor) : d'.life = d.life := by
  rcases reg.sameCtor_sib wf hd hd' hc with h | h
  · rw [h]
  · exact sibs_life wf hd d' h.1

theorem RegWF.sibs_mem {descs : List Desc} (reg : RegWF descs) {d : Desc} (hd : d ∈ descs) :
    ∀ sd ∈ d.sibs.filterMap (findDesc descs), sd ∈ descs ∧ sd.ctor = d.ctor := by
  intro sd hsd
  obtain ⟨sid, hsid, hf⟩ := List.mem_filterMap.1 hsd
  exact ⟨findDesc_mem hf, reg.sibCtor d hd sid hsid sd hf⟩

theorem RegWF.sameCtor_regOf {st : State} (reg : RegWF st.descs) (wf : WF st.descs) {d d' : Desc} (hd : d ∈ st.descs)
    (hd' : d' ∈ st.descs) (hc : d'.ctor = d.ctor) : d' ∈ regOf st d := by
  unfold regOf
  rcases reg.sameCtor_sib wf hd hd' hc with h | h
  · subst h
    split
    · exact List.mem_singleton.2 rfl
    next hne =>
      rcases reg.selfIn d' hd with h0 | h0
      · rw [h0] at hne
        exact absurd rfl hne
      · exact List.mem_filterMap.2 ⟨d'.id, h0, wf.uniqueIds d' hd⟩
  · split
    next he =>
      rw [List.isEmpty_iff.1 he] at h
      exact absurd h.1 List.not_mem_nil
    · exact h.1

theorem RegWF.regOf_sameCtor {st : State} (reg : RegWF st.descs) {d : Desc} (hd : d ∈ st.descs) :
    ∀ x ∈ regOf st d, x ∈ st.descs ∧ x.ctor = d.ctor := by
  intro x hx
  rcases Container.mem_regOf hx with h | h
  · rw [h]; exact ⟨hd, rfl⟩
  · exact reg.sibs_mem hd x h

theorem le_foldl_max (l : List Nat) : ∀ (a : Nat), a ≤ l.foldl max a ∧ ∀ x ∈ l, x ≤ l.foldl max a := by
  induction l with
  | nil => intro a; exact ⟨Nat.le_refl _, by simp⟩
  | cons y ys ih =>
    intro a
    simp only [List.foldl_cons]
    obtain ⟨h1, h2⟩ := ih (max a y)
    refine ⟨Nat.le_trans (Nat.le_max_left a y) h1, ?_⟩
    intro x hx
    rcases List.mem_cons.1 hx with rfl | hx
    · exact Nat.le_trans (Nat.le_max_right a x) h1
    · exact h2 x hx

theorem instVal_lt_firstFresh (descs : List Desc) (d : Desc) (hd : d ∈ descs) (v : Inst) (hk : d.kind = .inst v) :
    v < firstFresh descs := by
  unfold firstFresh
  have : instVal d = v := by unfold instVal; rw [hk]
  have := (le_foldl_max (descs.map instVal) 0).2 v (by rw [← this]; exact List.mem_map_of_mem hd)
  exact Nat.lt_succ_of_le this

def Provides (descs : List Desc) (dep : Dep) (t : Desc) : Prop :=
  (dep.grp ≠ 0 ∧ t ∈ groupMembers descs dep.ty dep.grp) ∨
  (dep.grp = 0 ∧ findService descs dep.ty dep.key = some t)

def ScopedCtor (descs : List Desc) (c : Nat) : Prop := ∀ d ∈ descs, d.ctor = c → d.life = .scoped

def Ranked (descs : List Desc) (rank : Nat → Nat) : Prop :=
  ∀ d ∈ descs, ∀ dep ∈ d.deps, ∀ t, Provides descs dep t → rank t.ctor < rank d.ctor

end Godi.Container
