import GodiProofs.Container.Registry
/-!
# What resolution in a scope leaves alone

`Ext st st' s`: every table of the provider and every other scope is as before, scope `s` keeps its place in the
tree, its flag and its context — so of the scope only its cache and its disposal list may differ —, the log has
grown by events of non-singleton registrations and `closed` events (of an instance that came too late), and ids
handed out keep their producer. Resolution in `s` (`resolve`, `getGroup`, argument building, `createInstance` of a
scoped or transient registration) stays within it, for every fuel, constructor behaviour and state (`resolve_ext` …
`createInstance_ext`). Invocation counters and
context bookkeeping are not mentioned.
-/
namespace Godi.Container

def EventNonSingleton (descs : List Desc) : Event → Prop
  | .ctor d c _ _ _ _ => ∃ x, findDesc descs d = some x ∧ x.life ≠ .singleton ∧ x.ctor = c
  | .ctorFail d c _ _ _ => ∃ x, findDesc descs d = some x ∧ x.life ≠ .singleton ∧ x.ctor = c
  | .closed _ _ _ => True

/-- what a resolution running in scope `s` may change -/
structure Ext (st st' : State) (s : Nat) : Prop where
  descs : st'.descs = st.descs
  singletons : st'.singletons = st.singletons
  provDisp : st'.provDisposables = st.provDisposables
  nscopes : st'.nscopes = st.nscopes
  provScopes : st'.provScopes = st.provScopes
  disposed : st'.disposed = st.disposed
  initializers : st'.initializers = st.initializers
  others : ∀ x, x ≠ s → st'.scope x = st.scope x
  parent : (st'.scope s).parent = (st.scope s).parent
  children : (st'.scope s).children = (st.scope s).children
  sdisposed : (st'.scope s).disposed = (st.scope s).disposed
  ctxOf : (st'.scope s).ctxOf = (st.scope s).ctxOf
  log : ∃ new, st'.log = st.log ++ new ∧ ∀ e ∈ new, EventNonSingleton st.descs e
  next : st.next ≤ st'.next
  /-- who produced an instance that was handed out before is never rewritten -/
  metaStable : ∀ i, i < st.next → st'.instMeta i = st.instMeta i

theorem log_grows_trans {a b c : State} {P : Event → Prop} (h1 : ∃ new, b.log = a.log ++ new ∧ ∀ e ∈ new, P e)
    (h2 : ∃ new, c.log = b.log ++ new ∧ ∀ e ∈ new, P e) : ∃ new, c.log = a.log ++ new ∧ ∀ e ∈ new, P e := by
  obtain ⟨n1, l1, e1⟩ := h1
  obtain ⟨n2, l2, e2⟩ := h2
  exact ⟨n1 ++ n2, by rw [l2, l1, List.append_assoc], fun e he => (List.mem_append.1 he).elim (e1 e) (e2 e)⟩

theorem log_grows_refl {a b : State} {P : Event → Prop} (h : b.log = a.log) :
    ∃ new, b.log = a.log ++ new ∧ ∀ e ∈ new, P e := ⟨[], h.trans (List.append_nil _).symm, nofun⟩

theorem Ext.refl (st : State) (s : Nat) : Ext st st s :=
  ⟨rfl, rfl, rfl, rfl, rfl, rfl, rfl, fun _ _ => rfl, rfl, rfl, rfl, rfl, log_grows_refl rfl, Nat.le_refl _, fun _ _ => rfl⟩

theorem Ext.trans {a b c : State} {s : Nat} (h1 : Ext a b s) (h2 : Ext b c s) : Ext a c s :=
  ⟨h2.descs.trans h1.descs, h2.singletons.trans h1.singletons, h2.provDisp.trans h1.provDisp,
    h2.nscopes.trans h1.nscopes, h2.provScopes.trans h1.provScopes, h2.disposed.trans h1.disposed,
    h2.initializers.trans h1.initializers, fun x hx => (h2.others x hx).trans (h1.others x hx),
    h2.parent.trans h1.parent, h2.children.trans h1.children, h2.sdisposed.trans h1.sdisposed,
    h2.ctxOf.trans h1.ctxOf, log_grows_trans h1.log (h1.descs ▸ h2.log), Nat.le_trans h1.next h2.next,
    fun i hi => (h2.metaStable i (Nat.lt_of_lt_of_le hi h1.next)).trans (h1.metaStable i hi)⟩

/-! ### the state-changing primitives -/

theorem updScope_same (st : State) (s : Nat) (f : ScopeSt → ScopeSt) : (updScope st s f).scope s = f (st.scope s) := by
  simp [updScope]

theorem updScope_other (st : State) (s x : Nat) (f : ScopeSt → ScopeSt) (h : x ≠ s) :
    (updScope st s f).scope x = st.scope x := by
  simp [updScope, h]

/-- an update of scope `s` that keeps its tree position is within the frame -/
theorem ext_updScope (st : State) (s : Nat) (f : ScopeSt → ScopeSt)
    (hp : ∀ sc, (f sc).parent = sc.parent) (hc : ∀ sc, (f sc).children = sc.children)
    (hd : ∀ sc, (f sc).disposed = sc.disposed) (hx : ∀ sc, (f sc).ctxOf = sc.ctxOf) :
    Ext st (updScope st s f) s := by
  refine ⟨rfl, rfl, rfl, rfl, rfl, rfl, rfl, fun x hx' => updScope_other st s x f hx', ?_, ?_, ?_, ?_,
    log_grows_refl rfl, Nat.le_refl _, fun _ _ => rfl⟩ <;> simp [updScope_same, hp, hc, hd, hx]

theorem bumpInv_ext (st : State) (s c : Nat) : Ext st (bumpInv st c) s :=
  ⟨rfl, rfl, rfl, rfl, rfl, rfl, rfl, fun _ _ => rfl, rfl, rfl, rfl, rfl, log_grows_refl rfl, Nat.le_refl _, fun _ _ => rfl⟩

theorem logEv_ext (st : State) (s : Nat) (e : Event) (he : EventNonSingleton st.descs e) : Ext st (logEv st e) s :=
  ⟨rfl, rfl, rfl, rfl, rfl, rfl, rfl, fun _ _ => rfl, rfl, rfl, rfl, rfl,
    ⟨[e], rfl, by intro x hx; simp at hx; subst hx; exact he⟩, Nat.le_refl _, fun _ _ => rfl⟩

theorem alloc_ext (st : State) (s k c n : Nat) : Ext st (alloc st k c n) s :=
  ⟨rfl, rfl, rfl, rfl, rfl, rfl, rfl, fun _ _ => rfl, rfl, rfl, rfl, rfl, log_grows_refl rfl,
    Nat.le_add_right _ _, fun i hi => by
      show (if st.next ≤ i ∧ i < st.next + k then (c, n) else st.instMeta i) = st.instMeta i
      rw [if_neg]; exact fun h => Nat.lt_irrefl _ (Nat.lt_of_lt_of_le hi h.1)⟩

theorem track_ext (st : State) (s : Nat) (v : Val) (disp : Bool) : Ext st (track st s v disp).1 s := by
  unfold track
  split
  · split
    · split
      · exact logEv_ext st s _ trivial
      · exact Ext.refl st s
    · split
      · dsimp only
        apply ext_updScope <;> intro sc <;> rfl
      · exact Ext.refl st s
  · split <;> exact Ext.refl st s

theorem putInstance_ext (st : State) (s : Nat) (k : Ident) (v : Val) : Ext st (putInstance st s k v) s := by
  unfold putInstance
  apply ext_updScope <;> intro sc <;> rfl

theorem setInstance_ext (st : State) (s : Nat) (d : Desc) (k : Ident) (v : Val) (hl : d.life ≠ .singleton) :
    Ext st (setInstance st s d k v).1 s := by
  unfold setInstance
  split
  · contradiction
  · exact (putInstance_ext st s k v).trans (track_ext _ s v d.disp)
  · exact track_ext st s v d.disp

theorem shareInstance_ext (st : State) (s : Nat) (d : Desc) (k : Ident) (v : Val) (hl : d.life ≠ .singleton) :
    Ext st (shareInstance st s d k v) s := by
  unfold shareInstance
  split
  · contradiction
  · exact putInstance_ext st s k v
  · exact Ext.refl st s

theorem storeOuts_ext (s : Nat) (sibs : List Desc) (outs : List Inst) (st : State)
    (h : ∀ d ∈ sibs, d.life ≠ .singleton) : Ext st (storeOuts st s sibs outs).1 s :=
  storeOuts_keeps (P := (Ext st · s)) sibs outs st
    (fun _ d hd o _ e => e.trans (setInstance_ext _ s d d.ident (.inst o) (h d hd))) (Ext.refl st s)

theorem shareAll_ext (s self : Nat) (v : Val) (sibs : List Desc) (st : State)
    (h : ∀ d ∈ sibs, d.life ≠ .singleton) : Ext st (shareAll st s self sibs v) s :=
  shareAll_keeps (P := (Ext st · s)) self sibs st
    (fun _ d hd e => e.trans (shareInstance_ext _ s d d.ident v (h d hd))) (Ext.refl st s)

theorem markAbsent_ext (st : State) (s : Nat) (sibs0 : List Desc) (nil? : Option Nat)
    (h : ∀ d ∈ sibs0, d.life ≠ .singleton) : Ext st (markAbsent st s sibs0 nil?) s :=
  markAbsent_keeps (P := (Ext st · s)) sibs0 nil?
    (fun d hd e => e.trans (shareInstance_ext _ s d d.ident .absent (h d hd))) (Ext.refl st s)

theorem provideValue_ext {st : State} (wf : WF st.descs) (s : Nat) {d : Desc} (hd : d ∈ st.descs)
    (hl : d.life ≠ .singleton) (v : Inst) : Ext st (provideValue st s d v).1 s := by
  unfold provideValue
  dsimp only
  have h1 := setInstance_ext st s d d.ident (.inst v) hl
  split
  · exact h1
  · exact h1.trans (shareAll_ext s d.id _ _ _ (sibs_nonSingleton wf hd hl))

theorem construct_ext (beh : Beh) {st : State} (wf : WF st.descs) (s : Nat) {d : Desc} (hd : d ∈ st.descs)
    (hl : d.life ≠ .singleton) (args : List Val) : Ext st (construct beh st s d args).1 s := by
  have hev : ∀ {st2 : State}, Ext st st2 s → ∃ x, findDesc st2.descs d.id = some x ∧ x.life ≠ .singleton ∧ x.ctor = d.ctor :=
    fun e => ⟨d, by rw [e.descs]; exact wf.uniqueIds d hd, hl, rfl⟩
  have hsibs := sibs_nonSingleton wf hd hl
  refine construct_cases beh st s d args (B := (Ext st · s)) (P := (Ext st · s)) (bumpInv_ext st s d.ctor) ?_ ?_ ?_ ?_
  · exact fun st2 n how e => e.trans (logEv_ext _ s _ (hev e))
  · exact fun st2 n e => (e.trans (logEv_ext _ s (.ctor d.id d.ctor n s args []) (hev e))).trans
      (setInstance_ext _ s d d.ident .unit hl)
  · intro st2 n sibs0 sibs' nil? e h0 hsub
    have l0 : ∀ sd ∈ sibs0, sd.life ≠ .singleton := fun sd h => (h0 sd h).elim (· ▸ hl) (hsibs sd)
    have e3 := (e.trans (alloc_ext _ s sibs'.length d.ctor n)).trans
      (logEv_ext _ s (.ctor d.id d.ctor n s args (allocOuts st2.next sibs'.length)) (hev (e.trans (alloc_ext ..))))
    exact (e3.trans (storeOuts_ext s _ _ _ fun sd h => l0 sd (hsub sd h))).trans (markAbsent_ext _ s _ _ l0)
  · intro st2 n e
    have e3 := (e.trans (alloc_ext _ s 1 d.ctor n)).trans
      (logEv_ext _ s (.ctor d.id d.ctor n s args [st2.next]) (hev (e.trans (alloc_ext ..))))
    exact e3.trans (provideValue_ext (e3.descs ▸ wf) s (e3.descs ▸ hd) hl _)

/-- the frame as a rule: resolution in scope `s` only constructs non-singleton registrations -/
def extRule (beh : Beh) {descs : List Desc} (wf : WF descs) (s : Nat) : Rule beh descs s where
  I := fun _ => True
  R := (Ext · · s)
  C := fun d => d ∈ descs ∧ d.life ≠ .singleton
  refl := fun _ => Ext.refl _ _
  trans := Ext.trans
  inv := fun _ _ => trivial
  covers := fun hm hl => ⟨hm, hl⟩
  value := fun hd _ hc _ => provideValue_ext (hd ▸ wf) s (hd ▸ hc.1) hc.2 _
  construct := fun hd _ hc _ _ => construct_ext beh (hd ▸ wf) s (hd ▸ hc.1) hc.2 _

theorem resolve_ext (beh : Beh) (fuel : Nat) (st : State) (s ty key : Nat) (wf : WF st.descs) :
    Ext st (resolve beh fuel st s ty key).1 s := (extRule beh wf s).resolve_step fuel st ty key rfl trivial

theorem getGroup_ext (beh : Beh) (fuel : Nat) (st : State) (s ty grp : Nat) (wf : WF st.descs) :
    Ext st (getGroup beh fuel st s ty grp).1 s := (extRule beh wf s).getGroup_step fuel st ty grp rfl trivial

theorem buildArgs_ext (beh : Beh) (fuel : Nat) (st : State) (s : Nat) (deps : List Dep) (acc : List Val)
    (wf : WF st.descs) : Ext st (buildArgs beh fuel st s deps acc).1 s :=
  (extRule beh wf s).buildArgs_step fuel st deps acc rfl trivial

theorem createInstance_ext (beh : Beh) (fuel : Nat) (st : State) (s : Nat) (d : Desc) (wf : WF st.descs)
    (hd : d ∈ st.descs) (hl : d.life ≠ .singleton) : Ext st (createInstance beh fuel st s d).1 s :=
  (extRule beh wf s).createInstance_step fuel st d rfl trivial ⟨hd, hl⟩

end Godi.Container
