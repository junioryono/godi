import GodiProofs.Container.BuildOnce
/-!
# One successful constructor call per scoped registration and scope

For every acyclic registry (a rank on constructors that strictly decreases along every declared
dependency — exists iff the dependency relation has no cycle, which Build checks), every behaviour and
every fuel: resolution inside an open scope never lets the constructor of a scoped registration
succeed twice in that scope; after a success every descriptor of the registration is cached there.

The induction on the fuel carries a bound on the ranks of the constructors that succeed (`SRes`): the
arguments of `d` are built below `rank d.ctor`, so `d`'s own constructor has still not succeeded when
it is invoked after a cache miss. That bound changes along the recursion, which is why this is an
induction of its own and not a `Rule`.
-/
namespace Godi.Container

/-- successful invocations of constructor `c` through scope `s` -/
def countIn (log : List Event) (c s : Nat) : Nat :=
  log.countP (fun e => match e with | .ctor _ c' _ s' _ _ => c' == c && s' == s | _ => false)

theorem countIn_append (l1 l2 : List Event) (c s : Nat) : countIn (l1 ++ l2) c s = countIn l1 c s + countIn l2 c s := by
  simp [countIn, List.countP_append]

@[simp] theorem countIn_nil (c s : Nat) : countIn [] c s = 0 := rfl

theorem countIn_ctor (d c' inv s' : Nat) (a : List Val) (o : List Inst) (c s : Nat) :
    countIn [.ctor d c' inv s' a o] c s = if c' = c ∧ s' = s then 1 else 0 := by
  simp only [countIn, List.countP_cons, List.countP_nil, Bool.and_eq_true, beq_iff_eq]
  split <;> simp_all

theorem countIn_ctorFail (d c' inv s' : Nat) (how : Outcome) (c s : Nat) :
    countIn [.ctorFail d c' inv s' how] c s = 0 := by simp [countIn]

def Cached (st : State) (s : Nat) (k : Ident) : Prop := (lookup ((st.scope s).instances.getD []) k).isSome

structure SInv (descs : List Desc) (st : State) : Prop where
  descsEq : st.descs = descs
  atMost : ∀ s c, ScopedCtor descs c → countIn st.log c s ≤ 1
  stored : ∀ s c, ScopedCtor descs c → countIn st.log c s = 1 → (st.scope s).disposed = false →
    ∀ d ∈ descs, d.ctor = c → Cached st s d.ident
  openOK : ∀ s, (st.scope s).disposed = false → ∃ m, (st.scope s).instances = some m
  fresh : ∀ s, st.nscopes ≤ s → ∀ c, countIn st.log c s = 0

/-- every new successful constructor event ran through scope `s` and has rank below `R` -/
def EvBound (rank : Nat → Nat) (s R : Nat) (new : List Event) : Prop :=
  ∀ e ∈ new, match e with
    | .ctor _ c _ s' _ _ => s' = s ∧ rank c < R
    | _ => True

theorem EvBound.append {rank : Nat → Nat} {s R : Nat} {a b : List Event} (h1 : EvBound rank s R a) (h2 : EvBound rank s R b) :
    EvBound rank s R (a ++ b) := by
  intro e he
  rcases List.mem_append.1 he with h | h
  · exact h1 e h
  · exact h2 e h

theorem EvBound.mono {rank : Nat → Nat} {s R R' : Nat} {a : List Event} (h : EvBound rank s R a) (hR : R ≤ R') :
    EvBound rank s R' a := by
  intro e he
  have := h e he
  cases e with
  | ctor d c inv s' a o => exact ⟨this.1, Nat.lt_of_lt_of_le this.2 hR⟩
  | ctorFail _ _ _ _ _ => trivial
  | closed _ _ _ => trivial

theorem evBound_nil (rank : Nat → Nat) (s R : Nat) : EvBound rank s R [] := by intro e he; simp at he

/-- events of rank below `rank c` are not events of `c`; events of another scope are not events of `s` -/
theorem countIn_of_bound (rank : Nat → Nat) (s R : Nat) (new : List Event) (h : EvBound rank s R new) (c s' : Nat)
    (hc : R ≤ rank c ∨ s' ≠ s) : countIn new c s' = 0 := by
  unfold countIn
  rw [List.countP_eq_zero]
  intro e he
  have := h e he
  cases e with
  | ctor d c' inv s'' a o =>
    simp only [Bool.and_eq_true, beq_iff_eq, not_and]
    intro hcc hss
    subst hcc; subst hss
    rcases hc with hc | hc
    · omega
    · exact hc this.1
  | ctorFail _ _ _ _ _ => simp
  | closed _ _ _ => simp

/-- The invariant reads the registry, the number of successes per constructor and scope, and what the
open scopes have cached. It is kept by a step that keeps the registry, keeps the entries of the scopes it leaves
open, opens only scopes not yet numbered, and counts one more success only where `P c s`: in an existing scope `s`
in which `c` had none, and which has all descriptors of `c` cached afterwards. -/
theorem SInv.step {descs : List Desc} {st st' : State} (inv : SInv descs st) (hd : st'.descs = st.descs)
    (hn : st.nscopes ≤ st'.nscopes) (P : Nat → Nat → Prop) [∀ c s, Decidable (P c s)]
    (hc : ∀ c s, countIn st'.log c s = countIn st.log c s + if P c s then 1 else 0)
    (hP : ∀ c s, P c s → s < st.nscopes ∧ (ScopedCtor descs c →
      countIn st.log c s = 0 ∧ ∀ d ∈ descs, d.ctor = c → Cached st' s d.ident))
    (ho : ∀ x, (st'.scope x).disposed = false → (∃ m, (st'.scope x).instances = some m) ∧
      (st.nscopes ≤ x ∨ ((st.scope x).disposed = false ∧ ∀ k, Cached st x k → Cached st' x k))) :
    SInv descs st' := by
  refine ⟨hd.trans inv.descsEq, ?_, ?_, fun s hopen => (ho s hopen).1, ?_⟩
  · intro s c hsc
    rw [hc]
    split
    next hp => rw [((hP c s hp).2 hsc).1]; exact Nat.le_refl 1
    · exact inv.atMost s c hsc
  · intro s c hsc h1 hopen d hd' hdc
    rw [hc] at h1
    split at h1
    next hp => exact ((hP c s hp).2 hsc).2 d hd' hdc
    · rcases (ho s hopen).2 with hnew | ⟨hop, hg⟩
      · rw [inv.fresh s hnew c] at h1
        cases h1
      · exact hg _ (inv.stored s c hsc h1 hop d hd' hdc)
  · intro s hs c
    have hs' := Nat.le_trans hn hs
    rw [hc, if_neg fun hp => Nat.lt_irrefl _ (Nat.lt_of_lt_of_le (hP c s hp).1 hs'), inv.fresh s hs' c]

theorem SInv.same {descs : List Desc} {st st' : State} (inv : SInv descs st) (hd : st'.descs = st.descs)
    (hn : st.nscopes ≤ st'.nscopes) (hc : ∀ c s, countIn st'.log c s = countIn st.log c s)
    (ho : ∀ x, (st'.scope x).disposed = false → (∃ m, (st'.scope x).instances = some m) ∧
      (st.nscopes ≤ x ∨ ((st.scope x).disposed = false ∧ ∀ k, Cached st x k → Cached st' x k))) :
    SInv descs st' :=
  inv.step hd hn (fun _ _ => False) (fun c s => by rw [hc]; rfl) nofun ho

/-- a scope that stays open with the cache it had: what `SInv.same` asks of it -/
theorem SInv.kept {descs : List Desc} {st st' : State} (inv : SInv descs st) {x : Nat} (ho : (st.scope x).disposed = false)
    (hi : (st'.scope x).instances = (st.scope x).instances) :
    (∃ m, (st'.scope x).instances = some m) ∧
      (st.nscopes ≤ x ∨ ((st.scope x).disposed = false ∧ ∀ k, Cached st x k → Cached st' x k)) :=
  ⟨hi ▸ inv.openOK x ho, .inr ⟨ho, fun k hk => by unfold Cached; rw [hi]; exact hk⟩⟩

def OpenCache (st : State) (s : Nat) : Prop := (st.scope s).disposed = false ∧ ∃ m, (st.scope s).instances = some m

/-- a step that only writes scope `s`'s cache / disposal list: no event, nothing else touched -/
structure StoreStep (st st' : State) (s : Nat) : Prop where
  descs : st'.descs = st.descs
  log : st'.log = st.log
  others : ∀ x, x ≠ s → st'.scope x = st.scope x
  nscopes : st'.nscopes = st.nscopes
  before : OpenCache st s
  opened : OpenCache st' s
  grows : ∀ k, Cached st s k → Cached st' s k

theorem StoreStep.refl (st : State) (s : Nat) (h : OpenCache st s) : StoreStep st st s := ⟨rfl, rfl, fun _ _ => rfl, rfl, h, h, fun _ h => h⟩

theorem StoreStep.trans {a b c : State} {s : Nat} (h1 : StoreStep a b s) (h2 : StoreStep b c s) : StoreStep a c s :=
  ⟨h2.descs.trans h1.descs, h2.log.trans h1.log, fun x hx => (h2.others x hx).trans (h1.others x hx),
   h2.nscopes.trans h1.nscopes, h1.before, h2.opened,
   fun k h => h2.grows k (h1.grows k h)⟩

theorem track_store (st : State) (s : Nat) (v : Val) (disp : Bool) (h : OpenCache st s) :
    StoreStep st (track st s v disp).1 s ∧ (track st s v disp).2 = .ok () := by
  obtain ⟨hd, m, hm⟩ := h
  unfold track
  cases v with
  | inst i =>
    simp only [hd, Bool.false_eq_true, ↓reduceIte]
    cases disp with
    | true =>
      simp only [↓reduceIte]
      refine ⟨⟨rfl, rfl, fun x hx => updScope_other st s x _ hx, rfl, ⟨hd, m, hm⟩, ⟨by simp [updScope, hd], m, by simp [updScope, hm]⟩, ?_⟩, by trivial⟩
      intro k hk; unfold Cached at hk ⊢; simpa [updScope] using hk
    | false => simp only [Bool.false_eq_true, ↓reduceIte]; exact ⟨StoreStep.refl st s ⟨hd, m, hm⟩, by trivial⟩
  | _ => simp only [hd, Bool.false_eq_true, ↓reduceIte]; exact ⟨StoreStep.refl st s ⟨hd, m, hm⟩, by trivial⟩

theorem putInstance_store (st : State) (s : Nat) (k : Ident) (v : Val) (h : OpenCache st s) :
    StoreStep st (putInstance st s k v) s ∧ Cached (putInstance st s k v) s k := by
  obtain ⟨hd, m, hm⟩ := h
  refine ⟨⟨rfl, rfl, fun x hx => updScope_other st s x _ hx, rfl, ⟨hd, m, hm⟩,
    ⟨by simp [putInstance, updScope, hd], cachePut m k v, by simp [putInstance, updScope, hm]⟩, ?_⟩, ?_⟩
  · intro k' hk'
    unfold Cached at hk' ⊢
    rw [putInstance_instances, hm]
    rw [hm] at hk'
    exact grows_put m k v k' hk'
  · unfold Cached
    rw [putInstance_instances, hm]
    simp [lookup_put_self]

theorem setInstance_store (st : State) (s : Nat) (d : Desc) (k : Ident) (v : Val) (hl : d.life ≠ .singleton)
    (h : OpenCache st s) :
    StoreStep st (setInstance st s d k v).1 s ∧ (d.life = .scoped → Cached (setInstance st s d k v).1 s k) ∧
    (setInstance st s d k v).2 = .ok () := by
  unfold setInstance
  split
  · contradiction
  · obtain ⟨h1, h1c⟩ := putInstance_store st s k v h
    obtain ⟨h2, h2ok⟩ := track_store (putInstance st s k v) s v d.disp h1.opened
    exact ⟨h1.trans h2, fun _ => h2.grows k h1c, h2ok⟩
  next hl' =>
    obtain ⟨h2, h2ok⟩ := track_store st s v d.disp h
    exact ⟨h2, fun hh => (by rw [hl'] at hh; cases hh), h2ok⟩

theorem shareInstance_store (st : State) (s : Nat) (d : Desc) (k : Ident) (v : Val) (hl : d.life ≠ .singleton)
    (h : OpenCache st s) :
    StoreStep st (shareInstance st s d k v) s ∧ (d.life = .scoped → Cached (shareInstance st s d k v) s k) := by
  unfold shareInstance
  split
  · contradiction
  · obtain ⟨h1, h1c⟩ := putInstance_store st s k v h
    exact ⟨h1, fun _ => h1c⟩
  next hl' => exact ⟨StoreStep.refl st s h, fun hh => by rw [hl'] at hh; cases hh⟩

def scopeStore (s : Nat) : StoreRel where
  Pre := (OpenCache · s)
  Step := (StoreStep · · s)
  Stored := fun st d => d.life = .scoped → Cached st s d.ident
  refl := .refl _ s
  trans := .trans
  after := (·.opened)
  keeps := fun h hc hl => h.grows _ (hc hl)

theorem SInv.store {descs : List Desc} {st st' : State} {s : Nat} (inv : SInv descs st) (h : StoreStep st st' s) :
    SInv descs st' := by
  refine inv.same h.descs (Nat.le_of_eq h.nscopes.symm) (fun c x => by rw [h.log]) (fun x hx => ?_)
  by_cases hs : x = s
  · subst hs
    exact ⟨h.opened.2, .inr ⟨h.before.1, h.grows⟩⟩
  · exact inv.kept (h.others x hs ▸ hx) (by rw [h.others x hs])

/-- result of a resolution step running in the open scope `s` with rank bound `R` -/
structure SRes (descs : List Desc) (rank : Nat → Nat) (st st' : State) (s R : Nat) : Prop where
  inv : SInv descs st'
  log : ∃ new, st'.log = st.log ++ new ∧ EvBound rank s R new
  opened : OpenCache st' s
  grows : ∀ k, Cached st s k → Cached st' s k
  nscopes : st'.nscopes = st.nscopes

theorem SRes.refl {descs : List Desc} {rank : Nat → Nat} {st : State} {s R : Nat} (inv : SInv descs st)
    (ho : OpenCache st s) : SRes descs rank st st s R :=
  ⟨inv, ⟨[], by simp, evBound_nil _ _ _⟩, ho, fun _ h => h, rfl⟩

theorem SRes.trans {descs : List Desc} {rank : Nat → Nat} {a b c : State} {s R : Nat}
    (h1 : SRes descs rank a b s R) (h2 : SRes descs rank b c s R) : SRes descs rank a c s R := by
  obtain ⟨n1, l1, e1⟩ := h1.log
  obtain ⟨n2, l2, e2⟩ := h2.log
  exact ⟨h2.inv, ⟨n1 ++ n2, by rw [l2, l1, List.append_assoc], e1.append e2⟩, h2.opened,
    fun k h => h2.grows k (h1.grows k h), h2.nscopes.trans h1.nscopes⟩

theorem SRes.mono {descs : List Desc} {rank : Nat → Nat} {a b : State} {s R R' : Nat}
    (h : SRes descs rank a b s R) (hR : R ≤ R') : SRes descs rank a b s R' := by
  obtain ⟨n, l, e⟩ := h.log
  exact ⟨h.inv, ⟨n, l, e.mono hR⟩, h.opened, h.grows, h.nscopes⟩

theorem SRes.ofStore {descs : List Desc} {rank : Nat → Nat} {st st' : State} {s R : Nat} (inv : SInv descs st)
    (h : StoreStep st st' s) : SRes descs rank st st' s R :=
  ⟨inv.store h, ⟨[], by rw [h.log]; simp, evBound_nil _ _ _⟩, h.opened, h.grows, h.nscopes⟩

/-- bumping an invocation counter / allocating ids / logging a failed call: invisible to the invariant -/
theorem sinv_bump {descs : List Desc} {st : State} (inv : SInv descs st) (c : Nat) : SInv descs (bumpInv st c) :=
  ⟨inv.descsEq, inv.atMost, inv.stored, inv.openOK, inv.fresh⟩

theorem sinv_alloc {descs : List Desc} {st : State} (inv : SInv descs st) (k c n : Nat) : SInv descs (alloc st k c n) :=
  ⟨inv.descsEq, inv.atMost, inv.stored, inv.openOK, inv.fresh⟩

theorem sinv_logFail {descs : List Desc} {st : State} (inv : SInv descs st) (d c n s : Nat) (how : Outcome) :
    SInv descs (logEv st (.ctorFail d c n s how)) := by
  refine inv.same rfl (Nat.le_refl _) (fun c' s' => ?_) (fun _ hx => inv.kept hx rfl)
  show countIn (st.log ++ [_]) c' s' = _
  rw [countIn_append, countIn_ctorFail]
  rfl

theorem scopedCtor_of (descs : List Desc) (wf : WF descs) (rw' : RegWF descs) (d : Desc) (hd : d ∈ descs)
    (hl : d.life = .scoped) : ScopedCtor descs d.ctor :=
  fun _ hd' hc => (rw'.ctor_life wf hd hd' hc).trans hl

theorem not_scopedCtor_of (descs : List Desc) (d : Desc) (hd : d ∈ descs) (hl : d.life ≠ .scoped) :
    ¬ ScopedCtor descs d.ctor := fun h => hl (h d hd rfl)

/-- The successful constructor event of `d` in scope `s` (logged on `st`: `st3`), followed by the storing
of its outputs. Between the two the invariant does not hold: the event counts, the outputs are not
cached yet. -/
theorem sres_event_store {descs : List Desc} {rank : Nat → Nat} {st st3 st4 : State} {s R : Nat} (inv : SInv descs st)
    {d : Desc} (hd : d ∈ descs) (ho : OpenCache st s) (hs : s < st.nscopes)
    (hzero : d.life = .scoped → countIn st.log d.ctor s = 0) (hR : rank d.ctor < R) {args : List Val}
    (h3 : StoreRel.CallLogged st st3 s d args) (hstore : StoreStep st3 st4 s)
    (hcached : ∀ d' ∈ descs, d'.ctor = d.ctor → d'.life = .scoped → Cached st4 s d'.ident) :
    SRes descs rank st st4 s R := by
  obtain ⟨n, outs, h3log⟩ := h3.log
  have hgrows : ∀ k, Cached st s k → Cached st4 s k := by
    intro k hk
    apply hstore.grows
    unfold Cached at hk ⊢
    rw [h3.scope]
    exact hk
  refine ⟨inv.step (hstore.descs.trans h3.descs) (Nat.le_of_eq (hstore.nscopes.trans h3.nscopes).symm)
      (fun c s' => d.ctor = c ∧ s = s') (fun c s' => by rw [hstore.log, h3log, countIn_append, countIn_ctor])
      (fun c s' hp => ⟨hp.2 ▸ hs, fun hsc => ?_⟩) (fun x hx => ?_),
    ⟨_, hstore.log.trans h3log, ?_⟩, hstore.opened, hgrows, hstore.nscopes.trans h3.nscopes⟩
  · obtain ⟨rfl, rfl⟩ := hp
    exact ⟨hzero (hsc d hd rfl), fun d' hd' hdc => hcached d' hd' hdc (hsc d' hd' hdc)⟩
  · by_cases hxs : x = s
    · subst hxs
      exact ⟨hstore.opened.2, .inr ⟨ho.1, hgrows⟩⟩
    · have e : st4.scope x = st.scope x := by rw [hstore.others x hxs, h3.scope]
      exact inv.kept (e ▸ hx) (by rw [e])
  · intro e he
    rw [List.mem_singleton.1 he]
    exact ⟨rfl, hR⟩

structure Cfg (descs : List Desc) (rank : Nat → Nat) : Prop where
  wf : WF descs
  reg : RegWF descs
  ranked : Ranked descs rank

theorem scopeWrites {descs : List Desc} (wf : WF descs) (reg : RegWF descs) {d : Desc} (hd : d ∈ descs)
    (hl : d.life ≠ .singleton) (s : Nat) : (scopeStore s).Writes s descs d :=
  ⟨fun st x hx hc v => setInstance_store st s x x.ident v (reg.ctor_life wf hd hx hc ▸ hl),
    fun st x hx hc v => shareInstance_store st s x x.ident v (reg.ctor_life wf hd hx hc ▸ hl)⟩

theorem provideValue_sres {descs : List Desc} {rank : Nat → Nat} (cfg : Cfg descs rank) {st : State} {s R : Nat}
    (inv : SInv descs st) (ho : OpenCache st s) {d : Desc} (hd : d ∈ descs) (hl : d.life ≠ .singleton) (v : Inst) :
    SRes descs rank st (provideValue st s d v).1 s R := by
  obtain rfl := inv.descsEq
  exact .ofStore inv ((scopeStore s).provideValue cfg.wf cfg.reg hd (scopeWrites cfg.wf cfg.reg hd hl s) v ho rfl).1

theorem construct_sres (beh : Beh) {descs : List Desc} {rank : Nat → Nat} (cfg : Cfg descs rank) {st : State} {s R : Nat}
    (inv : SInv descs st) (ho : OpenCache st s) (hs : s < st.nscopes) {d : Desc} (hd : d ∈ descs)
    (hl : d.life ≠ .singleton) (hR : rank d.ctor < R) (hzero : d.life = .scoped → countIn st.log d.ctor s = 0)
    (args : List Val) : SRes descs rank st (construct beh st s d args).1 s R := by
  obtain rfl := inv.descsEq
  rcases (scopeStore s).construct beh cfg.wf cfg.reg hd (scopeWrites cfg.wf cfg.reg hd hl s) args
    with ⟨n, how, e, h⟩ | ⟨st3, h3, h⟩
  · rw [h]
    refine ⟨sinv_logFail (sinv_bump inv _) _ _ _ _ _, ⟨[_], rfl, ?_⟩, ho, fun _ h => h, rfl⟩
    intro e he
    rw [List.mem_singleton.1 he]
    trivial
  · obtain ⟨hst, hc⟩ := h (show OpenCache st3 s by unfold OpenCache; rw [h3.scope]; exact ho)
    exact sres_event_store inv hd ho hs hzero hR h3 hst hc

theorem scopedOnce (beh : Beh) (descs : List Desc) (rank : Nat → Nat) (cfg : Cfg descs rank) :
    ∀ fuel,
    (∀ st s ty key R, SInv descs st → OpenCache st s → s < st.nscopes →
      (∀ t, findService descs ty key = some t → rank t.ctor < R) →
      SRes descs rank st (resolve beh fuel st s ty key).1 s R) ∧
    (∀ st s d R, SInv descs st → OpenCache st s → s < st.nscopes → d ∈ descs → rank d.ctor < R →
      SRes descs rank st (resolveDesc beh fuel st s d).1 s R) ∧
    (∀ st s ty grp R, SInv descs st → OpenCache st s → s < st.nscopes →
      (∀ t ∈ groupMembers descs ty grp, rank t.ctor < R) →
      SRes descs rank st (getGroup beh fuel st s ty grp).1 s R) ∧
    (∀ st s ds acc R, SInv descs st → OpenCache st s → s < st.nscopes →
      (∀ d ∈ ds, d ∈ descs ∧ rank d.ctor < R) →
      SRes descs rank st (resolveMembers beh fuel st s ds acc).1 s R) ∧
    (∀ st s deps acc R, SInv descs st → OpenCache st s → s < st.nscopes →
      (∀ dep ∈ deps, ∀ t, Provides descs dep t → rank t.ctor < R) →
      SRes descs rank st (buildArgs beh fuel st s deps acc).1 s R) ∧
    (∀ st s d R, SInv descs st → OpenCache st s → s < st.nscopes → d ∈ descs → d.life ≠ .singleton →
      rank d.ctor < R → (d.life = .scoped → countIn st.log d.ctor s = 0) →
      SRes descs rank st (createInstance beh fuel st s d).1 s R) := by
  intro fuel
  induction fuel with
  | zero =>
    exact ⟨fun _ _ _ _ _ inv ho _ _ => .refl inv ho, fun _ _ _ _ inv ho _ _ _ => .refl inv ho,
      fun _ _ _ _ _ inv ho _ _ => .refl inv ho, fun _ _ _ _ _ inv ho _ _ => .refl inv ho,
      fun _ _ _ _ _ inv ho _ _ => .refl inv ho, fun _ _ _ _ inv ho _ _ _ _ _ => .refl inv ho⟩
  | succ f ih =>
    obtain ⟨ihR, ihD, ihG, ihM, ihA, ihC⟩ := ih
    refine ⟨?_, ?_, ?_, ?_, ?_, ?_⟩
    · intro st s ty key R inv ho hs hrank
      unfold resolve
      simp only [ho.1, Bool.false_eq_true, ↓reduceIte]
      split; · exact .refl inv ho
      split; · exact .refl inv ho
      split; · exact .refl inv ho
      split
      · exact .refl inv ho
      next d hfd =>
        rw [inv.descsEq] at hfd
        exact ihD st s d R inv ho hs (findService_mem hfd) (hrank d hfd)
    · intro st s d R inv ho hs hd hR
      unfold resolveDesc
      split
      · split <;> exact .refl inv ho
      next hl =>
        split
        · exact .refl inv ho
        · exact .refl inv ho
        next hmiss =>
          refine ihC st s d R inv ho hs hd (by rw [hl]; simp) hR ?_
          -- a success would have left `d` in the cache
          intro _
          have hsc := scopedCtor_of descs cfg.wf cfg.reg d hd hl
          have h1 := inv.atMost s d.ctor hsc
          by_cases hone : countIn st.log d.ctor s = 1
          · have := inv.stored s d.ctor hsc hone ho.1 d hd rfl
            unfold Cached at this
            rw [hmiss] at this; cases this
          · omega
      next hl => exact ihC st s d R inv ho hs hd (by rw [hl]; simp) hR (by intro h; rw [hl] at h; cases h)
    · intro st s ty grp R inv ho hs hrank
      unfold getGroup
      simp only [ho.1, Bool.false_eq_true, ↓reduceIte]
      rw [inv.descsEq]
      exact ihM st s _ [] R inv ho hs (fun d hd => ⟨groupMembers_mem hd, hrank d hd⟩)
    · intro st s ds acc R inv ho hs hds
      cases ds with
      | nil => unfold resolveMembers; exact .refl inv ho
      | cons d rest =>
        unfold resolveMembers
        have h1 := ihD st s d R inv ho hs (hds d (by simp)).1 (hds d (by simp)).2
        have h2 := fun acc' => h1.trans (ihM _ s rest acc' R h1.inv h1.opened (h1.nscopes ▸ hs)
          (fun x hx => hds x (List.mem_cons_of_mem _ hx)))
        dsimp only
        split
        · exact h2 _
        · exact h2 _
        · exact h1
    · intro st s deps acc R inv ho hs hdeps
      cases deps with
      | nil => unfold buildArgs; exact .refl inv ho
      | cons dep rest =>
        unfold buildArgs
        dsimp only
        generalize hr : (if dep.grp != 0 then getGroup beh f st s dep.ty dep.grp
            else resolve beh f st s dep.ty dep.key) = r
        have h1 : SRes descs rank st r.1 s R := by
          rw [← hr]
          split
          next hg =>
            exact ihG st s _ _ R inv ho hs (fun t ht => hdeps dep (by simp) t (.inl ⟨by simpa using hg, ht⟩))
          next hg =>
            exact ihR st s _ _ R inv ho hs (fun t ht => hdeps dep (by simp) t (.inr ⟨by simpa using hg, ht⟩))
        have h2 := fun acc' => h1.trans (ihA r.1 s rest acc' R h1.inv h1.opened (h1.nscopes ▸ hs)
          (fun dep' hd' => hdeps dep' (List.mem_cons_of_mem _ hd')))
        split
        · exact h2 _
        · split
          · exact h2 _
          · exact h1
    · intro st s d R inv ho hs hd hl hR hzero
      rw [createInstance_succ]
      split
      · exact provideValue_sres cfg inv ho hd hl _
      · dsimp only
        -- the arguments are built below `rank d.ctor`: none of their events is an event of `d.ctor`
        have hA := ihA st s d.deps [] (rank d.ctor) inv ho hs (cfg.ranked d hd)
        generalize buildArgs beh f st s d.deps [] = ra at hA
        have hAR : SRes descs rank st ra.1 s R := hA.mono (Nat.le_of_lt hR)
        split
        · exact hAR
        · refine hAR.trans (construct_sres beh cfg hA.inv hA.opened (hA.nscopes ▸ hs) hd hl hR (fun hsc => ?_) _)
          obtain ⟨nested, hlog, hb⟩ := hA.log
          rw [hlog, countIn_append, hzero hsc, countIn_of_bound rank s (rank d.ctor) nested hb d.ctor s (.inl (Nat.le_refl _))]

end Godi.Container
