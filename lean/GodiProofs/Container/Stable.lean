import GodiProofs.Container.Frame
import GodiProofs.Container.Law
/-!
`Stable`: what every operation of a built provider other than `Provider.Close` preserves —
the registry, the singleton table and the provider's disposal list — while the log only grows by
events that are not constructions of singleton registrations.
-/
namespace Godi.Container

structure Stable (st st' : State) : Prop where
  descs : st'.descs = st.descs
  singletons : st'.singletons = st.singletons
  provDisp : st'.provDisposables = st.provDisposables
  initializers : st'.initializers = st.initializers
  log : ∃ new, st'.log = st.log ++ new ∧ ∀ e ∈ new, EventNonSingleton st.descs e
  next : st.next ≤ st'.next

theorem Stable.refl (st : State) : Stable st st := ⟨rfl, rfl, rfl, rfl, log_grows_refl rfl, Nat.le_refl _⟩

theorem Stable.trans {a b c : State} (h1 : Stable a b) (h2 : Stable b c) : Stable a c :=
  ⟨h2.descs.trans h1.descs, h2.singletons.trans h1.singletons, h2.provDisp.trans h1.provDisp,
    h2.initializers.trans h1.initializers, log_grows_trans h1.log (h1.descs ▸ h2.log), Nat.le_trans h1.next h2.next⟩

theorem Ext.stable {st st' : State} {s : Nat} (h : Ext st st' s) : Stable st st' :=
  ⟨h.descs, h.singletons, h.provDisp, h.initializers, h.log, h.next⟩

theorem updScope_stable (st : State) (s : Nat) (f : ScopeSt → ScopeSt) : Stable st (updScope st s f) :=
  ⟨rfl, rfl, rfl, rfl, log_grows_refl rfl, Nat.le_refl _⟩

/-- `Close` only logs `closed` events -/
def stableClose (beh : Beh) : CloseRule beh :=
  .ofFrame beh Stable Stable.refl Stable.trans updScope_stable
    (fun _ _ _ _ => ⟨rfl, rfl, rfl, rfl, ⟨[_], rfl, fun e he => by rw [List.mem_singleton.1 he]; trivial⟩, Nat.le_refl _⟩)
    (fun _ _ => ⟨rfl, rfl, rfl, rfl, log_grows_refl rfl, Nat.le_refl _⟩)

theorem closeScope_stable (beh : Beh) (order : List Nat → List Nat) (fuel : Nat) :
    (∀ st s, Stable st (closeScope beh order fuel st s).1) ∧
    (∀ st l, Stable st (closeChildren beh order fuel st l).1) :=
  ⟨fun st s => (((stableClose beh).close order fuel).1 st s trivial).1,
   fun st l => (((stableClose beh).close order fuel).2 st l trivial).1⟩

theorem allocScope_stable (st : State) (parent : Option Nat) (ctx : Nat) : Stable st (allocScope st parent ctx) :=
  ⟨rfl, rfl, rfl, rfl, log_grows_refl rfl, Nat.le_refl _⟩

theorem addChild_stable (st : State) (p s : Nat) : Stable st (addChild st p s) := updScope_stable _ _ _

theorem addProvScope_stable (st : State) (s : Nat) : Stable st (addProvScope st s) :=
  ⟨rfl, rfl, rfl, rfl, log_grows_refl rfl, Nat.le_refl _⟩

/-- every user operation other than `Provider.Close` is `Stable`, as a law: resolution in a scope constructs
scoped and transient registrations only, and the initializers are scoped -/
def stableLaw (beh : Beh) {descs : List Desc} (wf : WF descs) : Law beh descs where
  I := fun _ => True
  R := Stable
  N := (·.life = .scoped)
  refl := fun _ => .refl _
  trans := .trans
  inv := fun _ _ => trivial
  resolve := fun fuel s ty key hd _ _ => ((extRule beh wf s).resolve_step fuel _ ty key hd trivial).stable
  getGroup := fun fuel s ty grp hd _ _ => ((extRule beh wf s).getGroup_step fuel _ ty grp hd trivial).stable
  initializer := fun fuel s d hd _ _ hm hl =>
    ((extRule beh wf s).createInstance_step fuel _ d hd trivial ⟨hm, by rw [hl]; simp⟩).stable
  close := fun order fuel s _ _ => (closeScope_stable beh order fuel).1 _ s
  allocScope := fun parent ctx _ _ => ⟨allocScope_stable _ parent ctx, trivial⟩
  addProvScope := fun s _ _ => addProvScope_stable _ s
  addChild := fun p s _ _ => addChild_stable _ p s

theorem Stable.initOK {st st' : State} (h : Stable st st') (i : InitOK st) : InitOK st' := by
  unfold InitOK; rw [h.descs, h.initializers]; exact i

theorem scopeGet_stable (beh : Beh) (st : State) (s ty key : Nat) (wf : WF st.descs) :
    Stable st (scopeGet beh st s ty key).1 := (stableLaw beh wf).resolve _ s ty key rfl trivial trivial

theorem scopeGetGroup_stable (beh : Beh) (st : State) (s ty grp : Nat) (wf : WF st.descs) :
    Stable st (scopeGetGroup beh st s ty grp).1 := (stableLaw beh wf).getGroup _ s ty grp rfl trivial trivial

theorem runInitializers_stable (beh : Beh) (s : Nat) (ids : List Nat) (st : State) (wf : WF st.descs)
    (hi : ∀ id ∈ ids, ∀ d, findDesc st.descs id = some d → d.life = .scoped) :
    Stable st (runInitializers beh st s ids).1 := ((stableLaw beh wf).runInitializers s ids st rfl trivial trivial hi).1

theorem newScope_stable (beh : Beh) (st : State) (parent : Option Nat) (ctx : Nat) (ri : Bool)
    (wf : WF st.descs) (i : InitOK st) : Stable st (newScope beh st parent ctx ri).1 :=
  ((stableLaw beh wf).newScope st parent ctx ri rfl trivial i).1

theorem stepOp_stable (beh : Beh) (st : State) (op : Op) (wf : WF st.descs) (i : InitOK st) :
    Stable st (stepOp beh st op) := (stableLaw beh wf).stepOp st op rfl trivial i (fun _ _ => trivial)

/-- every history of user operations (short of `Provider.Close`) is stable -/
theorem run_stable (beh : Beh) (ops : List Op) (st : State) (wf : WF st.descs) (i : InitOK st) :
    Stable st (run beh st ops) := (stableLaw beh wf).run (fun _ _ => trivial) ops st rfl trivial i

end Godi.Container
