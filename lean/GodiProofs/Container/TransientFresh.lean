import GodiProofs.Container.Stores
/-!
# Transient instances are never stored (C03, globally)

`TC`: neither the singleton table nor any scope cache ever holds an instance that a constructor of a
transient registration produced. A transient resolution always constructs and gets a fresh id (`construct_fresh`;
`Props/C03.lean`), and that id can never be answered again by a later look-up: the only way to obtain it is the one
return of the call that created it. `TC` is an invariant over the values the tables hold (`tcStores`).
-/
namespace Godi.Container

def TransCtor (descs : List Desc) (c : Nat) : Prop := ∃ d ∈ descs, d.ctor = c ∧ d.life = .transient

/-- not an instance of a transient registration (and an id that has been handed out) -/
def NotTrans (descs : List Desc) (st : State) : Val → Prop
  | .inst i => ¬ TransCtor descs (st.instMeta i).1 ∧ i < st.next
  | .group _ => False        -- group slices are never stored
  | _ => True

/-- `insts`: the registered instance values, which `provideValue` stores, are no transient constructor's either -/
structure TC (descs : List Desc) (st : State) : Prop where
  descsEq : st.descs = descs
  tbl : ∀ k v, lookup st.singletons k = some v → NotTrans descs st v
  cache : ∀ s k v, lookup ((st.scope s).instances.getD []) k = some v → NotTrans descs st v
  insts : ∀ d ∈ descs, ∀ v, d.kind = .inst v → NotTrans descs st (.inst v)

theorem NotTrans.stable {descs : List Desc} {a b : State} (m : MetaLe a b) {v : Val} (h : NotTrans descs a v) :
    NotTrans descs b v := by
  cases v with
  | inst i => exact ⟨by rw [m.2 i h.2]; exact h.1, Nat.lt_of_lt_of_le h.2 m.1⟩
  | group l => exact h
  | _ => trivial

/-- only what a transient registration produces bypasses every table -/
theorem tcStores (descs : List Desc) :
    Stores (TC descs) (fun l st v => l ≠ .transient → NotTrans descs st v) (fun _ _ => True) where
  step := fun tc hd hs m _ hc => ⟨hd.trans tc.descsEq, fun k v hv => (tc.tbl k v (hs ▸ hv)).stable m,
    fun s k v hv => (tc.cache s k v (hc s k v hv)).stable m, fun d hd' v hk => (tc.insts d hd' v hk).stable m⟩
  closed := trivial
  fail := trivial
  single := fun k _ tc hv => by
    refine ⟨tc.descsEq, fun k' v' h => ?_, tc.cache, tc.insts⟩
    rcases lookup_cachePut h with rfl | h
    · exact hv (by simp)
    · exact tc.tbl k' v' h
  put := fun s k _ tc hv => by
    refine ⟨tc.descsEq, tc.tbl, fun x k' v' h => ?_, tc.insts⟩
    rcases cache_putInstance h with rfl | h
    · exact hv (by simp)
    · exact tc.cache x k' v' h
  stable := fun m h hl => (h hl).stable m
  absent := fun _ => trivial
  unit := fun _ => trivial

structure TCfg (descs : List Desc) : Prop where
  wf : WF descs
  reg : RegWF descs

theorem notTransCtor_of {descs : List Desc} (cfg : TCfg descs) (d : Desc) (hd : d ∈ descs) (hl : d.life ≠ .transient) :
    ¬ TransCtor descs d.ctor := by
  rintro ⟨d', hd', hc, ht⟩
  exact hl ((cfg.reg.ctor_life cfg.wf hd hd' hc).symm.trans ht)

/-- the ids a constructor is handed are those of a transient constructor only if its registration is transient -/
theorem tc_construct {descs : List Desc} (beh : Beh) (cfg : TCfg descs) {st : State} (tc : TC descs st) (s : Nat)
    {d : Desc} (hd : d ∈ descs) (args : List Val) : After (TC descs) st (construct beh st s d args).1 := by
  refine ((tcStores descs).construct beh tc s (fun _ _ _ _ => trivial)
    fun sd hsd st' k n outs i _ h1 h2 hl => ⟨?_, h2⟩).1
  rw [instMeta_alloc_log st' k d.ctor n d.id s args outs i h1 h2]
  exact notTransCtor_of cfg d hd (reg_life cfg.wf hd (tc.descsEq ▸ hsd) ▸ hl)

theorem construct_fresh (beh : Beh) (st : State) (s : Nat) (d : Desc) (args : List Val) {i : Inst}
    (h : (construct beh st s d args).2 = .ok (.inst i)) :
    st.next ≤ i ∧ i < (construct beh st s d args).1.next := by
  have S : Stores (fun _ => True) (fun _ st' v => ∀ j, v = .inst j → st.next ≤ j ∧ j < st'.next) (fun _ _ => True) :=
    ⟨fun _ _ _ _ _ _ => trivial, trivial, trivial, fun _ _ _ _ => trivial, fun _ _ _ _ _ => trivial,
      fun m h j hj => ⟨(h j hj).1, Nat.lt_of_lt_of_le (h j hj).2 m.1⟩, nofun, nofun⟩
  exact (S.construct beh trivial s (fun _ _ _ _ => trivial) fun _ _ st' k n outs j m h1 h2 x hx =>
    Val.inst.inj hx ▸ ⟨Nat.le_trans m.1 h1, h2⟩).2 _ h i rfl

/-- never storing a transient instance as a rule of resolution, for registrations of every lifetime -/
def tcRule (beh : Beh) {descs : List Desc} (cfg : TCfg descs) (s : Nat) : Rule beh descs s where
  I := TC descs
  C := (· ∈ descs)
  covers := fun h _ => h
  value := fun _ tc hc hk => ((tcStores descs).provideValue tc s _ fun _ _ _ => tc.insts _ hc _ hk).1.inv
  construct := fun _ tc hc _ _ => (tc_construct beh cfg tc s hc _).inv

def tcInvariant (beh : Beh) {descs : List Desc} (cfg : TCfg descs) : Invariant beh descs where
  I := TC descs
  quiet := fun h q => ((tcStores descs).quiet h q).inv
  resolve := fun fuel s ty key hd h => (tcRule beh cfg s).resolve_step fuel _ ty key hd h
  getGroup := fun fuel s ty grp hd h => (tcRule beh cfg s).getGroup_step fuel _ ty grp hd h
  create := fun fuel s d hd h hm => (tcRule beh cfg s).createInstance_step fuel _ d hd h hm

theorem tc_run {descs : List Desc} (beh : Beh) (cfg : TCfg descs) : ∀ (ops : List Op) (st : State), TC descs st →
    TC descs (run beh st ops) :=
  fun ops st tc => (tcInvariant beh cfg).run ops st tc.descsEq tc

/-- the empty provider (`hz`: constructor id 0, the recorded producer of registered instance values, is no transient
constructor) -/
theorem tc_start {descs : List Desc} (hz : ¬ TransCtor descs 0) : TC descs (buildStart descs) :=
  ⟨rfl, fun k v h => absurd h ((buildStart_holds_nothing descs).1 k v),
    fun s k v h => absurd h ((buildStart_holds_nothing descs).2 s k v),
    fun d hd v hk => ⟨hz, instVal_lt_firstFresh descs d hd v hk⟩⟩

theorem build_tc {descs : List Desc} (beh : Beh) (cfg : TCfg descs) (hz : ¬ TransCtor descs 0) (order : List Nat)
    (hok : (buildRuntime beh descs order).2 = .ok ()) : TC descs (buildRuntime beh descs order).1 :=
  ((tcInvariant beh cfg).build (tc_start hz) order hok).1

end Godi.Container
