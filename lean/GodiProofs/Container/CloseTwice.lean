import GodiProofs.Container.Drain
import GodiProofs.Container.Close
/-!
# `Provider.Close` twice (C12)

Whatever the first `Provider.Close` did — any state, any scope tree, any failing `Close()` methods, any
iteration order — it leaves the provider disposed, so a second `Provider.Close` (with any order) returns
nil, changes nothing and logs nothing: nothing is closed a second time.
-/
namespace Godi.Container

theorem closeProvider_disposed (beh : Beh) (order : List Nat → List Nat) (st : State) :
    (closeProvider beh order st).1.disposed = true := by
  refine closeProvider_cases beh order st (M := fun r => r.1.disposed = true) (fun h => h) (fun _ f r1 r2 r3 _ e1 e2 e3 => ?_)
  show r3.1.disposed = true
  rw [e3, (closeLoop_closeEff beh providerOwner _ _).pdisposed]
  show r2.1.disposed = true
  rw [e2, ((close_closeEff beh order _).1 _ _).pdisposed, e1, ((close_closeEff beh order _).2 _ _).pdisposed]

theorem closeProvider_twice (beh : Beh) (order order' : List Nat → List Nat) (st : State) :
    closeProvider beh order' (closeProvider beh order st).1 = ((closeProvider beh order st).1, false) :=
  closeProvider_of_disposed beh order' _ (closeProvider_disposed beh order st)

theorem closeScope_twice (beh : Beh) (order order' : List Nat → List Nat) (f f' : Nat) (st : State) (s : Nat) :
    closeScope beh order' f' (closeScope beh order (f + 1) st s).1 s = ((closeScope beh order (f + 1) st s).1, false) :=
  closeScope_of_disposed beh order' f' _ s (closeScope_disposes_self beh order f st s)

end Godi.Container
