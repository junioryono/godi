import GodiProofs.Container.TreeOps
/-!
# The forest invariant holds in the state Build returns

Build creates the root scope, then runs `createInstance` for the singletons and for the root scope's
initializers: all within `TFrame` (`TreeOps.lean`). So a successful Build leaves the forest as it was when
the root scope had just been created, and that state satisfies `Tree`.
-/
namespace Godi.Container

theorem tree_empty (descs : List Desc) (nx : Nat) : Tree ({ descs := descs, next := nx } : State) := by
  refine ⟨?_, ?_, ?_, ?_, ?_, ?_, ?_⟩
  · intro c p hc _; exact absurd hc (Nat.not_lt_zero _)
  · intro p C hC
    cases (Option.some.inj hC : [] = C)
    exact ⟨List.nodup_nil, fun c hc => by cases hc⟩
  · intro l hl
    cases (Option.some.inj hl : [] = l)
    exact ⟨List.nodup_nil, fun c hc => by cases hc⟩
  · intro c p hc _ _; exact absurd hc (Nat.not_lt_zero _)
  · intro c p C hc _ _ _; exact absurd hc (Nat.not_lt_zero _)
  · intro x _; rfl
  · intro x hd _; cases hd

theorem tree_start (descs : List Desc) : Tree (buildStart descs) :=
  tree_drop_exempt 0 (tree_alloc (tree_empty descs (firstFresh descs)) none 0 (fun p hp => by cases hp)).1 (Or.inl rfl)

/-- a successful Build leaves the forest as it was when the root scope had just been created -/
theorem buildRuntime_tframe (beh : Beh) (descs : List Desc) (order : List Nat)
    (hok : (buildRuntime beh descs order).2 = .ok ()) : TFrame (buildStart descs) (buildRuntime beh descs order).1 :=
  have step : ∀ {st : State} (d : Desc), TFrame (buildStart descs) st →
      TFrame (buildStart descs) (createInstance beh (fuelFor st) st rootScope d).1 :=
    fun d h => h.trans ((tframe_all beh _).2.2.2.2.2 _ rootScope d)
  (Steps.buildRuntime (I := TFrame (buildStart descs)) (R := fun _ b => TFrame (buildStart descs) b) (N := fun _ => True)
    ⟨fun h => h, fun _ h => h, fun _ h => h⟩ (TFrame.refl _) (fun d _ h _ _ _ => step d h)
    (fun _ _ h => h.trans (tframe_of_eq rfl rfl rfl)) (fun d _ h _ _ => step d h) (fun _ _ _ _ => trivial) order hok).1

/-- the state a successful Build returns satisfies the forest invariant (and has its root scope) -/
theorem tree_buildRuntime (beh : Beh) (descs : List Desc) (order : List Nat)
    (hok : (buildRuntime beh descs order).2 = .ok ()) :
    Tree (buildRuntime beh descs order).1 ∧ 0 < (buildRuntime beh descs order).1.nscopes :=
  have f := buildRuntime_tframe beh descs order hok
  ⟨f.tree (tree_start descs), by rw [f.nscopes]; exact Nat.one_pos⟩

theorem tree_build (beh : Beh) (descs : List Desc) (order : List Nat) (st : State)
    (h : build beh descs order = (st, .ok ())) : Tree st ∧ 0 < st.nscopes := by
  unfold build at h
  split at h
  · have := tree_buildRuntime beh descs order (by rw [h])
    rw [h] at this
    exact this
  · cases h

end Godi.Container
