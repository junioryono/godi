import GodiProofs.Props.C05
import GodiProofs.Container.Registry
import GodiModel.Build
/-! Decision logic of Build phases 1–3, characterised declaratively. -/
namespace Godi.Container
open Godi.Graph Godi.Spec

theorem addAllDeferred_base : ∀ (l : List (Nat × Nat × List Nat)) (g : Graph), Base g → Base (addAllDeferred g l) := by
  intro l
  induction l with
  | nil => intro g b; exact b
  | cons r rest ih =>
    intro g b
    obtain ⟨k, p, ds⟩ := r
    exact ih _ (addProviderDeferred_base g k p ds b)

theorem addAllDeferred_dirty : ∀ (l : List (Nat × Nat × List Nat)) (g : Graph), g.cycleDirty = true →
    (addAllDeferred g l).cycleDirty = true := by
  intro l
  induction l with
  | nil => intro g h; exact h
  | cons r rest ih =>
    intro g _
    obtain ⟨k, p, ds⟩ := r
    apply ih
    unfold Godi.Graph.addProviderDeferred; rfl

theorem buildGraph_base (descs : List Desc) : Base (buildGraph descs) :=
  addAllDeferred_base _ _ base_empty

/-- phase 2 answers "circular" exactly when the graph phase 1 built has a directed cycle -/
theorem cycle_phase_exact (descs : List Desc) :
    (detectCycles (buildGraph descs)).2 = .ok ↔ ¬ HasCycle (abs (buildGraph descs)) := by
  unfold detectCycles
  exact Godi.Props.C05.detectCycles_exact _ (buildGraph_base descs) (addAllDeferred_dirty _ _ rfl) _ _
    (List.Perm.refl _) (List.Perm.refl _)

theorem depScoped_iff (descs : List Desc) (dep : Dep) :
    depScoped descs dep = true ↔ ∃ t, Provides descs dep t ∧ t.life = .scoped := by
  unfold depScoped Provides
  by_cases hg : dep.grp = 0
  · simp only [hg, bne_self_eq_false, Bool.false_eq_true, ↓reduceIte, ne_eq, not_true_eq_false, false_and, true_and, false_or]
    cases hf : findService descs dep.ty dep.key with
    | none => simp
    | some t => simp
  · have : (dep.grp != 0) = true := by simp [hg]
    simp only [this, ↓reduceIte, List.any_eq_true, beq_iff_eq, ne_eq, hg, not_false_eq_true, true_and, false_and, or_false]

theorem lifetimeConflict_iff (descs : List Desc) :
    lifetimeConflict descs = true ↔
      ∃ d ∈ descs, d.life ≠ .scoped ∧ ∃ dep ∈ d.deps, ∃ t, Provides descs dep t ∧ t.life = .scoped := by
  unfold lifetimeConflict
  simp only [List.any_eq_true, Bool.and_eq_true, bne_iff_ne, ne_eq, depScoped_iff]

theorem missingDependency_iff (descs : List Desc) :
    missingDependency descs = true ↔
      ∃ d ∈ descs, ∃ dep ∈ d.deps, dep.optional = false ∧ dep.grp = 0 ∧ isBuiltin dep = false ∧
        findService descs dep.ty dep.key = none := by
  unfold missingDependency depMissing
  simp only [List.any_eq_true, Bool.and_eq_true, Bool.not_eq_eq_eq_not, Bool.not_true, beq_iff_eq,
    Option.isNone_iff_eq_none, and_assoc]

/-- the verdict, phase by phase: an answer is given when the phases before it pass and its own does not -/
theorem verdict_iff (descs : List Desc) :
    (verdict descs = .circular ↔ (detectCycles (buildGraph descs)).2 ≠ .ok) ∧
    (verdict descs = .lifetime ↔ (detectCycles (buildGraph descs)).2 = .ok ∧ lifetimeConflict descs = true) ∧
    (verdict descs = .missing ↔
      (detectCycles (buildGraph descs)).2 = .ok ∧ lifetimeConflict descs = false ∧ missingDependency descs = true) ∧
    (verdict descs = .ok ↔
      (detectCycles (buildGraph descs)).2 = .ok ∧ lifetimeConflict descs = false ∧ missingDependency descs = false) := by
  unfold verdict
  split
  next h => cases lifetimeConflict descs <;> cases missingDependency descs <;> simp [h]
  next h => simp [show ¬(detectCycles (buildGraph descs)).2 = .ok from h]

end Godi.Container
