import GodiProofs.Container.Verdict
import GodiProofs.Container.Stores
/-!
# No captive dependencies, as a property of what constructors actually receive (C07)

`instMeta` records, for every instance id handed out, the constructor that produced it. An instance is
*clean* when that constructor does not belong to a scoped registration. The invariant `NC` says that
the singleton table holds clean values only and that every constructor event of a long-lived
(singleton or transient) registration lists clean arguments only — directly, through groups, keys,
aliases or parameter objects alike, because all of them go through `buildArgs`. It is preserved by
every resolution when validation has accepted the registry (`Accepted`: whatever provides a dependency
of a long-lived registration is itself long-lived); the indirect form ("through other singletons and
transients") is the same statement about the events of those other registrations.

`NC` is an invariant over what the tables hold (`Stores.lean`).
-/
namespace Godi.Container

/-- `c` is not the constructor of a scoped registration -/
def LongCtor (descs : List Desc) (c : Nat) : Prop := ∀ d ∈ descs, d.ctor = c → d.life ≠ .scoped

def CleanInst (descs : List Desc) (st : State) (i : Inst) : Prop := LongCtor descs (st.instMeta i).1

def CleanVal (descs : List Desc) (st : State) : Val → Prop
  | .inst i => CleanInst descs st i
  | .group l => ∀ i ∈ l, CleanInst descs st i
  | _ => True

/-- every instance id in the value has been handed out already -/
def BelowVal (st : State) : Val → Prop
  | .inst i => i < st.next
  | .group l => ∀ i ∈ l, i < st.next
  | _ => True

/-- a value whose ids have been handed out, clean when `long` holds (of the registration it stands for) -/
def ValOK (descs : List Desc) (st : State) (long : Prop) (v : Val) : Prop := BelowVal st v ∧ (long → CleanVal descs st v)

/-- the descriptor with this id is a singleton or transient registration -/
def LongDesc (descs : List Desc) (id : Nat) : Prop := ∀ x, findDesc descs id = some x → x.life ≠ .scoped

/-- a constructor event of a long-lived registration lists clean arguments only -/
def EventOK (descs : List Desc) (st : State) : Event → Prop
  | .ctor d _ _ _ args _ => ∀ a ∈ args, ValOK descs st (LongDesc descs d) a
  | _ => True

/-- `insts`: the values registered as instances count as products of constructor 0 -/
structure NC (descs : List Desc) (st : State) : Prop where
  descsEq : st.descs = descs
  tbl : ∀ k v, lookup st.singletons k = some v → CleanVal descs st v ∧ BelowVal st v
  evs : ∀ e ∈ st.log, EventOK descs st e
  cache : ∀ s k v, lookup ((st.scope s).instances.getD []) k = some v → BelowVal st v
  insts : ∀ d ∈ descs, ∀ v, d.kind = .inst v → CleanInst descs st v ∧ v < st.next

/-- validation accepted the registry: what provides a dependency of a long-lived registration is long-lived -/
def Accepted (descs : List Desc) : Prop :=
  ∀ d ∈ descs, d.life ≠ .scoped → ∀ dep ∈ d.deps, ∀ t, Provides descs dep t → t.life ≠ .scoped

/-! ### stability: later steps do not rewrite who produced an existing instance -/

theorem BelowVal.mono {a b : State} (m : MetaLe a b) {v : Val} (h : BelowVal a v) : BelowVal b v := by
  cases v with
  | inst i => exact Nat.lt_of_lt_of_le h m.1
  | group l => exact fun i hi => Nat.lt_of_lt_of_le (h i hi) m.1
  | _ => trivial

theorem CleanInst.stable {descs : List Desc} {a b : State} (m : MetaLe a b) {i : Inst} (hb : i < a.next)
    (hc : CleanInst descs a i) : CleanInst descs b i := by
  unfold CleanInst at hc ⊢
  rw [m.2 i hb]
  exact hc

theorem CleanVal.stable {descs : List Desc} {a b : State} (m : MetaLe a b) {v : Val} (hb : BelowVal a v)
    (hc : CleanVal descs a v) : CleanVal descs b v := by
  cases v with
  | inst i => exact CleanInst.stable m hb hc
  | group l => exact fun i hi => CleanInst.stable m (hb i hi) (hc i hi)
  | _ => trivial

theorem ValOK.stable {descs : List Desc} {a b : State} (m : MetaLe a b) {long : Prop} {v : Val}
    (h : ValOK descs a long v) : ValOK descs b long v := ⟨h.1.mono m, fun hl => (h.2 hl).stable m h.1⟩

theorem ValOK.weaken {descs : List Desc} {st : State} {long long' : Prop} {v : Val} (h : ValOK descs st long v)
    (hl : long' → long) : ValOK descs st long' v := ⟨h.1, fun l => h.2 (hl l)⟩

theorem EventOK.stable {descs : List Desc} {a b : State} (m : MetaLe a b) {e : Event} (h : EventOK descs a e) :
    EventOK descs b e := by
  cases e with
  | ctor d c inv s args outs => exact fun x hx => (h x hx).stable m
  | _ => trivial

/-- transport of the invariant along a step that keeps the table, adds nothing to the caches and only
appends acceptable events -/
theorem NC.step {descs : List Desc} {st st' : State} (nc : NC descs st) (hd : st'.descs = st.descs)
    (hs : st'.singletons = st.singletons) (m : MetaLe st st')
    (hl : ∃ new, st'.log = st.log ++ new ∧ ∀ e ∈ new, EventOK descs st' e)
    (hc : ∀ s k v, lookup ((st'.scope s).instances.getD []) k = some v → lookup ((st.scope s).instances.getD []) k = some v) :
    NC descs st' := by
  obtain ⟨new, hlog, hnew⟩ := hl
  refine ⟨hd.trans nc.descsEq, ?_, ?_, ?_, ?_⟩
  · intro k v hv
    obtain ⟨c, b⟩ := nc.tbl k v (hs ▸ hv)
    exact ⟨c.stable m b, b.mono m⟩
  · intro e he
    rw [hlog] at he
    rcases List.mem_append.1 he with h | h
    · exact (nc.evs e h).stable m
    · exact hnew e h
  · intro s k v hv
    exact (nc.cache s k v (hc s k v hv)).mono m
  · intro d hd' v hk
    obtain ⟨c, b⟩ := nc.insts d hd' v hk
    exact ⟨c.stable m b, Nat.lt_of_lt_of_le b m.1⟩

/-- what is kept for a registration is what it answers with: below the counter, and clean unless the
registration is scoped -/
theorem ncStores (descs : List Desc) :
    Stores (NC descs) (fun l st v => ValOK descs st (l ≠ .scoped) v) (EventOK descs) where
  step := NC.step
  closed := trivial
  fail := trivial
  single := fun k _ nc hv => by
    refine ⟨nc.descsEq, fun k' v' h => ?_, nc.evs, nc.cache, nc.insts⟩
    rcases lookup_cachePut h with rfl | h
    · exact ⟨hv.2 (by simp), hv.1⟩
    · exact nc.tbl k' v' h
  put := fun s k _ nc hv => by
    refine ⟨nc.descsEq, nc.tbl, nc.evs, fun x k' v' h => ?_, nc.insts⟩
    rcases cache_putInstance h with rfl | h
    · exact hv.1
    · exact nc.cache x k' v' h
  stable := fun m h => h.stable m
  absent := ⟨trivial, fun _ => trivial⟩
  unit := ⟨trivial, fun _ => trivial⟩

structure NCfg (descs : List Desc) : Prop where
  wf : WF descs
  reg : RegWF descs
  acc : Accepted descs

/-- all descriptors of a long-lived registration share a constructor that no scoped registration uses -/
theorem longCtor_of {descs : List Desc} (cfg : NCfg descs) (d : Desc) (hd : d ∈ descs) (hl : d.life ≠ .scoped) :
    LongCtor descs d.ctor :=
  fun _ hd' hc => cfg.reg.ctor_life cfg.wf hd hd' hc ▸ hl

/-- a constructor invoked on arguments that are clean when its registration is long-lived: the event is
acceptable, and the ids it is handed are as clean as the constructor -/
theorem nc_construct {descs : List Desc} (beh : Beh) (cfg : NCfg descs) {st : State} (nc : NC descs st) (s : Nat)
    {d : Desc} (hd : d ∈ descs) {args : List Val} (hargs : ∀ a ∈ args, ValOK descs st (d.life ≠ .scoped) a) :
    After (NC descs) st (construct beh st s d args).1 ∧
    ∀ w, (construct beh st s d args).2 = .ok w → ValOK descs (construct beh st s d args).1 (d.life ≠ .scoped) w := by
  refine (ncStores descs).construct beh nc s
    (fun _ _ m _ a ha => ((hargs a ha).stable m).weaken fun hl => hl d (cfg.wf.uniqueIds d hd))
    fun sd hsd st' k n outs i _ h1 h2 => ⟨h2, fun hl => ?_⟩
  show LongCtor descs _
  rw [instMeta_alloc_log st' k d.ctor n d.id s args outs i h1 h2]
  exact longCtor_of cfg d hd (reg_life cfg.wf hd (nc.descsEq ▸ hsd) ▸ hl)

/-- an argument is clean when all that may provide it is long-lived: validation grants that for the dependencies
of a long-lived registration -/
theorem nc_args {descs : List Desc} (cfg : NCfg descs) {st : State} {d : Desc} (hd : d ∈ descs) {args : List Val}
    (h : Args (fun dep st v => ValOK descs st (∀ t, Provides descs dep t → t.life ≠ .scoped) v) st d.deps args) :
    ∀ a ∈ args, ValOK descs st (d.life ≠ .scoped) a := by
  intro a ha
  obtain ⟨dep, hdep, hA⟩ := h.mem a ha
  exact hA.weaken fun hl => cfg.acc _ hd hl dep hdep

theorem nc_value {descs : List Desc} {st : State} (nc : NC descs st) (s : Nat) {d : Desc}
    (hd : d ∈ descs) {v : Inst} (hk : d.kind = .inst v) :
    After (NC descs) st (provideValue st s d v).1 ∧
    ∀ w, (provideValue st s d v).2 = .ok w → ValOK descs (provideValue st s d v).1 (d.life ≠ .scoped) w :=
  (ncStores descs).provideValue nc s d fun _ _ => ⟨(nc.insts d hd v hk).2, fun _ => (nc.insts d hd v hk).1⟩

/-- no captive dependency as a rule of resolution in scope `s`, for registrations of every lifetime -/
def ncRule (beh : Beh) {descs : List Desc} (cfg : NCfg descs) (s : Nat) : Rule beh descs s where
  I := NC descs
  R := After (NC descs)
  C := (· ∈ descs)
  Q := fun d st v => ValOK descs st (d.life ≠ .scoped) v
  A := fun dep st v => ValOK descs st (∀ t, Provides descs dep t → t.life ≠ .scoped) v
  refl := .refl
  trans := .trans
  inv := fun _ r => r.inv
  covers := fun h _ => h
  qStable := fun r h => h.stable r.le
  aStable := fun r h => h.stable r.le
  hitSingleton := fun _ nc _ _ hv => ⟨(nc.tbl _ _ hv).2, fun _ => (nc.tbl _ _ hv).1⟩
  hitScoped := fun _ nc _ hl hv => ⟨nc.cache s _ _ hv, fun h => absurd hl h⟩
  argOne := fun hg h => by
    rcases h with ⟨_, ⟨_, rfl⟩ | ⟨_, rfl⟩ | ⟨_, rfl⟩⟩ | ⟨d, hf, hq⟩
    · exact ⟨trivial, fun _ => trivial⟩
    · exact ⟨trivial, fun _ => trivial⟩
    · exact ⟨trivial, fun _ => trivial⟩
    · exact hq.weaken fun hl => hl d (.inr ⟨hg, hf⟩)
  argGroup := fun hg h => by
    obtain ⟨l, rfl, hl⟩ := h
    refine ⟨fun i hi => ?_, fun hlong i hi => ?_⟩
    · obtain ⟨m, _, hq⟩ := hl i hi
      exact hq.1
    · obtain ⟨m, hm, hq⟩ := hl i hi
      exact hq.2 (hlong m (.inl ⟨hg, hm⟩))
  argZero := fun _ => ⟨trivial, fun _ => trivial⟩
  value := fun _ nc hc hk => (nc_value nc s hc hk).1
  valueAnswer := fun _ nc hc hk hw => (nc_value nc s hc hk).2 _ hw
  construct := fun _ nc hc _ ha => (nc_construct beh cfg nc s hc (nc_args cfg hc ha)).1
  constructAnswer := fun _ nc hc _ ha hw => (nc_construct beh cfg nc s hc (nc_args cfg hc ha)).2 _ hw

def ncInvariant (beh : Beh) {descs : List Desc} (cfg : NCfg descs) : Invariant beh descs where
  I := NC descs
  quiet := fun h q => ((ncStores descs).quiet h q).inv
  resolve := fun fuel s ty key hd h => ((ncRule beh cfg s).resolve_step fuel _ ty key hd h).inv
  getGroup := fun fuel s ty grp hd h => ((ncRule beh cfg s).getGroup_step fuel _ ty grp hd h).inv
  create := fun fuel s d hd h hm => ((ncRule beh cfg s).createInstance_step fuel _ d hd h hm).inv

theorem nc_run {descs : List Desc} (beh : Beh) (cfg : NCfg descs) : ∀ (ops : List Op) (st : State), NC descs st →
    NC descs (run beh st ops) :=
  fun ops st nc => (ncInvariant beh cfg).run ops st nc.descsEq nc

/-- the empty provider (`hz`: constructor id 0 — the "producer" of registered instance values — belongs to no
scoped registration) -/
theorem nc_start {descs : List Desc} (hz : LongCtor descs 0) : NC descs (buildStart descs) :=
  ⟨rfl, fun k v h => absurd h ((buildStart_holds_nothing descs).1 k v), nofun,
    fun s k v h => absurd h ((buildStart_holds_nothing descs).2 s k v),
    fun d hd v hk => ⟨hz, instVal_lt_firstFresh descs d hd v hk⟩⟩

/-- BUILD: when validation has accepted the registry, the provider Build returns satisfies the
no-captive invariant -/
theorem build_nc {descs : List Desc} (beh : Beh) (cfg : NCfg descs) (hz : LongCtor descs 0) (order : List Nat)
    (hok : (buildRuntime beh descs order).2 = .ok ()) : NC descs (buildRuntime beh descs order).1 :=
  ((ncInvariant beh cfg).build (nc_start hz) order hok).1

/-- what the invariant says about an event: a constructor of a singleton or transient registration
never receives — as a plain, keyed or aliased argument, as a parameter-object field, or as a member of
a group argument — an instance produced by a constructor of a scoped registration -/
theorem NC.event_args_clean {descs : List Desc} {st : State} (nc : NC descs st) (did c inv s : Nat) (args : List Val)
    (outs : List Inst) (he : Event.ctor did c inv s args outs ∈ st.log)
    (x : Desc) (hx : findDesc descs did = some x) (hlong : x.life ≠ .scoped) :
    (∀ i, Val.inst i ∈ args → LongCtor descs (st.instMeta i).1) ∧
    (∀ l i, Val.group l ∈ args → i ∈ l → LongCtor descs (st.instMeta i).1) := by
  have h : ∀ a ∈ args, ValOK descs st (LongDesc descs did) a := nc.evs _ he
  have hl : LongDesc descs did := fun y hy => by rw [hx] at hy; cases hy; exact hlong
  exact ⟨fun i hi => (h _ hi).2 hl, fun l i hlm hi => (h _ hlm).2 hl i hi⟩

end Godi.Container
