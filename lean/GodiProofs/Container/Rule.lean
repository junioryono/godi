import GodiModel.History
/-!
# Rules: what the recursion of M5 lifts from its non-recursive steps

`resolve → resolveDesc → createInstance → buildArgs → resolve/getGroup → resolveMembers → resolveDesc`
changes the state in two places only: where `createInstance` materialises a registered value
(`provideValue`) and where it invokes a constructor on the arguments it has built (`construct`).
A `Rule` packages a step relation between states, with what is known of the values handed around,
that these two steps respect; `Rule.resolution` says that all six functions then respect it.
`CloseRule` does the same for `closeScope`.
-/
namespace Godi.Container

def provideValue (st : State) (s : Nat) (d : Desc) (v : Inst) : State × Except Err Val :=
  let r := setInstance st s d d.ident (.inst v)
  match r.2 with
  | .error e => (r.1, .error e)
  | .ok _ => (shareAll r.1 s d.id (d.sibs.filterMap (findDesc st.descs)) (.inst v), .ok (.inst v))

def construct (beh : Beh) (st : State) (s : Nat) (d : Desc) (args : List Val) : State × Except Err Val :=
  let st2 := bumpInv st d.ctor
  let n := st2.invs d.ctor
  match beh.ctor d.ctor n with
  | .err => (logEv st2 (.ctorFail d.id d.ctor n s .err), .error [.invocation, .injected d.ctor])
  | .panic => (logEv st2 (.ctorFail d.id d.ctor n s .panic), .error [.panicL])
  | .nilOut => (logEv st2 (.ctorFail d.id d.ctor n s .nilOut), .error [.validation])
  | .ok =>
    let sibs := (d.sibs.filterMap (findDesc st2.descs))
    match d.kind with
    | .void =>
      let r := setInstance (logEv st2 (.ctor d.id d.ctor n s args [])) s d d.ident .unit
      (r.1, okOr r.2 .unit)
    | .multi =>
      let sibs0 := if sibs.isEmpty then [d] else sibs
      let sibs' := match beh.nilField d.ctor n with
        | some k => sibs0.eraseIdx k
        | none => sibs0
      let outs := allocOuts st2.next sibs'.length
      let st3 := logEv (alloc st2 sibs'.length d.ctor n) (.ctor d.id d.ctor n s args outs)
      let r := storeOuts st3 s sibs' outs
      (markAbsent r.1 s sibs0 (beh.nilField d.ctor n),
            if (sibs'.map (·.id)).contains d.id then okOr r.2 (.inst (outs.getD (idxOfDesc sibs' d.id) 0))
            else match r.2 with
              | .error e => .error e
              | .ok _ => .error [.validation])
    | _ =>
      let i := st2.next
      let st3 := logEv (alloc st2 1 d.ctor n) (.ctor d.id d.ctor n s args [i])
      let r := setInstance st3 s d d.ident (.inst i)
      match r.2 with
      | .error e => (r.1, .error e)
      | .ok _ => (shareAll r.1 s d.id sibs (.inst i), .ok (.inst i))

theorem createInstance_succ (beh : Beh) (f : Nat) (st : State) (s : Nat) (d : Desc) :
    createInstance beh (f + 1) st s d =
      match d.kind with
      | .inst v => provideValue st s d v
      | _ =>
        let ra := buildArgs beh f st s d.deps []
        match ra.2 with
        | .error e => (ra.1, .error (.invocation :: e))
        | .ok args => construct beh ra.1 s d args := by
  -- `rfl` sees through `createInstance`; unfolding it would have its equation generated first, which is slow
  unfold provideValue construct
  rfl

theorem okOr_eq_ok {α} {r : Except Err Unit} {v v' : α} (h : okOr r v = .ok v') : v' = v := by
  cases r with
  | ok u => cases h; rfl
  | error e => cases h

theorem multi_answer {r : Except Err Unit} {sibs : List Desc} {outs : List Inst} {id : Nat} {w : Val}
    (hlen : outs.length = sibs.length)
    (h : (if (sibs.map (·.id)).contains id then okOr r (Val.inst (outs.getD (idxOfDesc sibs id) 0))
      else match r with
        | .error e => .error e
        | .ok _ => .error [.validation]) = .ok w) : ∃ o ∈ outs, w = .inst o := by
  split at h
  next hc =>
    have hidx : idxOfDesc sibs id < outs.length := by
      rw [hlen, ← List.length_map (·.id)]
      exact List.idxOf_lt_length_of_mem (by simpa using hc)
    rw [okOr_eq_ok h, List.getD_eq_getElem?_getD, List.getElem?_eq_getElem hidx]
    exact ⟨_, List.getElem_mem _, rfl⟩
  · split at h <;> cases h

/-- the descriptors of `d`'s registration, as the provider finds them -/
def regOf (st : State) (d : Desc) : List Desc :=
  if (d.sibs.filterMap (findDesc st.descs)).isEmpty then [d] else d.sibs.filterMap (findDesc st.descs)

theorem mem_regOf {st : State} {d sd : Desc} (h : sd ∈ regOf st d) : sd = d ∨ sd ∈ d.sibs.filterMap (findDesc st.descs) := by
  unfold regOf at h
  split at h
  · exact .inl (List.mem_singleton.1 h)
  · exact .inr h

/-- the fields of a result object that have a value -/
def valued (sibs0 : List Desc) : Option Nat → List Desc
  | some k => sibs0.eraseIdx k
  | none => sibs0

theorem mem_valued {sibs0 : List Desc} {nil? : Option Nat} {sd : Desc} (h : sd ∈ valued sibs0 nil?) : sd ∈ sibs0 := by
  cases nil? with
  | none => exact h
  | some k => exact List.mem_of_mem_eraseIdx h

theorem allocOuts_length (next n : Nat) : (allocOuts next n).length = n := by
  rw [allocOuts, List.length_map, List.length_range]

theorem allocOuts_sorted (n k : Nat) : (allocOuts n k).Pairwise (· < ·) := by
  unfold allocOuts
  rw [List.pairwise_map]
  exact List.pairwise_lt_range.imp (fun h => Nat.add_lt_add_right h n)

theorem allocOuts_nodup (next n : Nat) : (allocOuts next n).Nodup :=
  (allocOuts_sorted next n).imp Nat.ne_of_lt

theorem mem_allocOuts {next n o : Nat} (h : o ∈ allocOuts next n) : next ≤ o ∧ o < next + n := by
  unfold allocOuts at h
  obtain ⟨k, hk, rfl⟩ := List.mem_map.1 h
  have := List.mem_range.1 hk
  omega

/-- `construct`, case by case, for a property `B` of the state with the invocation counted (`st2`; `n` is the number of
the invocation). `sibs0` is read off `st.descs`; in `plain` the siblings are those `provideValue` reads off the
registry of its own state, which is that of `st2`. -/
theorem construct_result_cases (beh : Beh) (st : State) (s : Nat) (d : Desc) (args : List Val) {B : State → Prop}
    {P : State × Except Err Val → Prop} (bump : B (bumpInv st d.ctor))
    (fail : ∀ st2 n how e, B st2 → P (logEv st2 (.ctorFail d.id d.ctor n s how), .error e))
    (void : ∀ st2 n res, d.kind = .void → B st2 → (∀ w, res = .ok w → w = .unit) →
      P ((setInstance (logEv st2 (.ctor d.id d.ctor n s args [])) s d d.ident .unit).1, res))
    (multi : ∀ st2 n (sibs0 sibs' : List Desc) nil? res, d.kind = .multi → B st2 → sibs0 = regOf st d →
      sibs' = valued sibs0 nil? →
      (∀ w, res = .ok w → ∃ o ∈ allocOuts st2.next sibs'.length, w = .inst o) →
      P (markAbsent (storeOuts (logEv (alloc st2 sibs'.length d.ctor n)
          (.ctor d.id d.ctor n s args (allocOuts st2.next sibs'.length))) s sibs' (allocOuts st2.next sibs'.length)).1
        s sibs0 nil?, res))
    (plain : ∀ st2 n, d.kind ≠ .void → d.kind ≠ .multi → B st2 →
      P (provideValue (logEv (alloc st2 1 d.ctor n) (.ctor d.id d.ctor n s args [st2.next])) s d st2.next)) :
    P (construct beh st s d args) := by
  unfold construct
  dsimp only
  generalize hs0 : (if (d.sibs.filterMap (findDesc (bumpInv st d.ctor).descs)).isEmpty then [d]
      else d.sibs.filterMap (findDesc (bumpInv st d.ctor).descs)) = sibs0
  generalize bumpInv st d.ctor = st2 at bump ⊢
  generalize st2.invs d.ctor = n
  split
  · exact fail st2 n _ _ bump
  · exact fail st2 n _ _ bump
  · exact fail st2 n _ _ bump
  · split
    next hk => exact void st2 n _ hk bump fun _ hw => okOr_eq_ok hw
    next hk =>
      exact multi st2 n sibs0 (valued sibs0 (beh.nilField d.ctor n)) (beh.nilField d.ctor n) _ hk bump hs0.symm rfl
        fun _ hw => multi_answer (allocOuts_length ..) hw
    next hv hm => exact plain st2 n hv hm bump

theorem construct_cases (beh : Beh) (st : State) (s : Nat) (d : Desc) (args : List Val) {B P : State → Prop}
    (bump : B (bumpInv st d.ctor))
    (fail : ∀ st2 n how, B st2 → P (logEv st2 (.ctorFail d.id d.ctor n s how)))
    (void : ∀ st2 n, B st2 → P (setInstance (logEv st2 (.ctor d.id d.ctor n s args [])) s d d.ident .unit).1)
    (multi : ∀ st2 n (sibs0 sibs' : List Desc) nil?, B st2 →
      (∀ sd ∈ sibs0, sd = d ∨ sd ∈ d.sibs.filterMap (findDesc st.descs)) → (∀ sd ∈ sibs', sd ∈ sibs0) →
      P (markAbsent (storeOuts (logEv (alloc st2 sibs'.length d.ctor n)
          (.ctor d.id d.ctor n s args (allocOuts st2.next sibs'.length))) s sibs' (allocOuts st2.next sibs'.length)).1
        s sibs0 nil?))
    (plain : ∀ st2 n, B st2 →
      P (provideValue (logEv (alloc st2 1 d.ctor n) (.ctor d.id d.ctor n s args [st2.next])) s d st2.next).1) :
    P (construct beh st s d args).1 :=
  construct_result_cases beh st s d args (P := fun r => P r.1) bump (fun st2 n how _ => fail st2 n how)
    (fun st2 n _ _ h _ => void st2 n h)
    (fun st2 n sibs0 sibs' nil? _ _ h h0 hs _ => multi st2 n sibs0 sibs' nil? h (fun _ hm => mem_regOf (h0 ▸ hm))
      (fun _ hm => mem_valued (hs ▸ hm))) (fun st2 n _ _ h => plain st2 n h)

theorem shareAll_keeps {P : State → Prop} {s : Nat} {v : Val} (self : Nat) : ∀ (sibs : List Desc) (st : State),
    (∀ st, ∀ d ∈ sibs, P st → P (shareInstance st s d d.ident v)) → P st → P (shareAll st s self sibs v)
  | [], _, _, h => h
  | d :: ds, st, step, h => by
    show P (shareAll (if d.id = self then st else shareInstance st s d d.ident v) s self ds v)
    refine shareAll_keeps self ds _ (fun st x hx => step st x (List.mem_cons_of_mem _ hx)) ?_
    split
    · exact h
    · exact step st d (List.mem_cons_self ..) h

theorem markAbsent_keeps {P : State → Prop} {st : State} {s : Nat} (sibs0 : List Desc) (nil? : Option Nat)
    (step : ∀ d ∈ sibs0, P st → P (shareInstance st s d d.ident .absent)) (h : P st) :
    P (markAbsent st s sibs0 nil?) := by
  unfold markAbsent
  split
  · split
    next dk hk => exact step dk (List.mem_of_getElem? hk) h
    · exact h
  · exact h

theorem storeOuts_keeps {P : State → Prop} {s : Nat} : ∀ (sibs : List Desc) (outs : List Inst) (st : State),
    (∀ st, ∀ d ∈ sibs, ∀ o ∈ outs, P st → P (setInstance st s d d.ident (.inst o)).1) → P st →
    P (storeOuts st s sibs outs).1
  | [], _, _, _, h => by unfold storeOuts; exact h
  | _ :: _, [], _, _, h => by unfold storeOuts; exact h
  | d :: ds, o :: os, st, step, h => by
    unfold storeOuts
    exact storeOuts_keeps ds os _
      (fun st x hx y hy => step st x (List.mem_cons_of_mem _ hx) y (List.mem_cons_of_mem _ hy))
      (step st d (List.mem_cons_self ..) o (List.mem_cons_self ..) h)

/-- A property of states kept by the five updates that `track`, `setInstance` and `shareInstance` are made of is kept
by storing as a whole, and, with the three steps of an invocation, by `construct`. For a relation to a fixed state `a`
take `K := R a`. -/
structure StoreKeeps (K : State → Prop) : Prop where
  late : ∀ {st} s i, K st → K (logClosed st s i true)
  listed : ∀ {st} s i, K st →
    K (updScope st s fun sc => { sc with disposables := some ((sc.disposables.getD []) ++ [i]) })
  cached : ∀ {st} s k v, K st → K (putInstance st s k v)
  single : ∀ {st} k v, K st → K (storeSingleton st k v)
  owned : ∀ {st : State} i, K st → K { st with provDisposables := some ((st.provDisposables.getD []) ++ [i]) }

namespace StoreKeeps
variable {K : State → Prop} (k : StoreKeeps K) {st : State}
include k

theorem track (s : Nat) (v : Val) (disp : Bool) (h : K st) : K (track st s v disp).1 := by
  unfold Container.track
  split
  · split
    · split
      · exact k.late _ _ h
      · exact h
    · split
      · exact k.listed _ _ h
      · exact h
  · split <;> exact h

theorem setInstance (s : Nat) (d : Desc) (id : Ident) (v : Val) (h : K st) : K (setInstance st s d id v).1 := by
  unfold Container.setInstance
  split
  · split
    · split
      · exact k.owned _ (k.single _ _ h)
      · exact k.single _ _ h
    · exact k.single _ _ h
  · exact k.track _ _ _ (k.cached _ _ _ h)
  · exact k.track _ _ _ h

theorem shareInstance (s : Nat) (d : Desc) (id : Ident) (v : Val) (h : K st) : K (shareInstance st s d id v) := by
  unfold Container.shareInstance
  split
  · exact k.single _ _ h
  · exact k.cached _ _ _ h
  · exact h

theorem storeOuts (s : Nat) (sibs : List Desc) (outs : List Inst) (h : K st) : K (storeOuts st s sibs outs).1 :=
  storeOuts_keeps sibs outs st (fun _ _ _ _ _ => k.setInstance _ _ _ _) h

theorem shareAll (s self : Nat) (v : Val) (sibs : List Desc) (h : K st) : K (shareAll st s self sibs v) :=
  shareAll_keeps self sibs st (fun _ _ _ => k.shareInstance _ _ _ _) h

theorem markAbsent (s : Nat) (sibs0 : List Desc) (nil? : Option Nat) (h : K st) : K (markAbsent st s sibs0 nil?) :=
  markAbsent_keeps sibs0 nil? (fun _ _ => k.shareInstance _ _ _ _) h

theorem provideValue (s : Nat) (d : Desc) (v : Inst) (h : K st) : K (provideValue st s d v).1 := by
  unfold Container.provideValue
  dsimp only
  split
  · exact k.setInstance _ _ _ _ h
  · exact k.shareAll _ _ _ _ (k.setInstance _ _ _ _ h)

theorem construct (beh : Beh) (bump : ∀ {st} c, K st → K (bumpInv st c)) (alloc : ∀ {st} n c inv, K st → K (alloc st n c inv))
    (log : ∀ {st} e, K st → K (logEv st e)) (s : Nat) (d : Desc) (args : List Val) (h : K st) :
    K (construct beh st s d args).1 :=
  construct_cases beh st s d args (B := K) (P := K) (bump _ h) (fun _ _ _ h => log _ h)
    (fun _ _ h => k.setInstance _ _ _ _ (log _ h))
    (fun _ _ _ _ _ h _ _ => k.markAbsent _ _ _ (k.storeOuts _ _ _ (log _ (alloc _ _ _ h))))
    (fun _ _ h => k.provideValue _ _ _ (log _ (alloc _ _ _ h)))

end StoreKeeps

theorem nextKeeps (n : Nat) : StoreKeeps (·.next = n) :=
  ⟨fun _ _ h => h, fun _ _ h => h, fun _ _ _ h => h, fun _ _ h => h, fun _ h => h⟩

@[simp] theorem setInstance_next_eq (st : State) (s : Nat) (d : Desc) (k : Ident) (v : Val) : (setInstance st s d k v).1.next = st.next :=
  (nextKeeps st.next).setInstance s d k v rfl

@[simp] theorem storeOuts_next_eq (s : Nat) : ∀ (sibs : List Desc) (outs : List Inst) (st : State),
    (storeOuts st s sibs outs).1.next = st.next :=
  fun sibs outs st => (nextKeeps st.next).storeOuts s sibs outs rfl

@[simp] theorem shareAll_next_eq (s self : Nat) (v : Val) : ∀ (sibs : List Desc) (st : State),
    (shareAll st s self sibs v).next = st.next :=
  fun sibs st => (nextKeeps st.next).shareAll s self v sibs rfl

@[simp] theorem markAbsent_next_eq (st : State) (s : Nat) (sibs0 : List Desc) (nil? : Option Nat) :
    (markAbsent st s sibs0 nil?).next = st.next :=
  (nextKeeps st.next).markAbsent s sibs0 nil? rfl

@[simp] theorem provideValue_next_eq (st : State) (s : Nat) (d : Desc) (v : Inst) :
    (provideValue st s d v).1.next = st.next :=
  (nextKeeps st.next).provideValue s d v rfl

@[simp] theorem updScope_descs (st : State) (s : Nat) (f : ScopeSt → ScopeSt) : (updScope st s f).descs = st.descs := rfl
@[simp] theorem logClosed_descs (st : State) (o : Nat) (i : Inst) (ok : Bool) : (logClosed st o i ok).descs = st.descs := rfl
@[simp] theorem putInstance_descs (st : State) (s : Nat) (k : Ident) (v : Val) : (putInstance st s k v).descs = st.descs := rfl
@[simp] theorem storeSingleton_descs (st : State) (k : Ident) (v : Val) : (storeSingleton st k v).descs = st.descs := rfl
@[simp] theorem bumpInv_descs (st : State) (c : Nat) : (bumpInv st c).descs = st.descs := rfl
@[simp] theorem alloc_descs (st : State) (k c n : Nat) : (alloc st k c n).descs = st.descs := rfl
@[simp] theorem logEv_descs (st : State) (e : Event) : (logEv st e).descs = st.descs := rfl

def SameRegistry (st st' : State) : Prop := st'.descs = st.descs ∧ st'.initializers = st.initializers

theorem SameRegistry.refl (st : State) : SameRegistry st st := ⟨rfl, rfl⟩
theorem SameRegistry.trans {a b c : State} (h1 : SameRegistry a b) (h2 : SameRegistry b c) : SameRegistry a c :=
  ⟨h2.1.trans h1.1, h2.2.trans h1.2⟩

theorem sameRegistryKeeps (a : State) : StoreKeeps (SameRegistry a) :=
  ⟨fun _ _ h => h, fun _ _ h => h, fun _ _ _ h => h, fun _ _ h => h, fun _ h => h⟩

theorem provideValue_sameRegistry (st : State) (s : Nat) (d : Desc) (v : Inst) :
    SameRegistry st (provideValue st s d v).1 := (sameRegistryKeeps st).provideValue s d v (.refl st)

theorem construct_sameRegistry (beh : Beh) (st : State) (s : Nat) (d : Desc) (args : List Val) :
    SameRegistry st (construct beh st s d args).1 :=
  (sameRegistryKeeps st).construct beh (fun _ h => h) (fun _ _ _ h => h) (fun _ h => h) s d args (.refl st)

/-- what `resolve` answers with -/
def Answers (descs : List Desc) (Q : Desc → State → Val → Prop) (s ty key : Nat) (st : State) (v : Val) : Prop :=
  (key = 0 ∧ ((ty = tyCtx ∧ v = .ctx s) ∨ (ty = tyProvider ∧ v = .provider) ∨ (ty = tyScope ∧ v = .scope s))) ∨
  ∃ d, findService descs ty key = some d ∧ Q d st v

/-- what `getGroup` answers with -/
def GroupAnswers (descs : List Desc) (Q : Desc → State → Val → Prop) (ty grp : Nat) (st : State) (v : Val) : Prop :=
  ∃ l, v = .group l ∧ ∀ i ∈ l, ∃ m ∈ groupMembers descs ty grp, Q m st (.inst i)

inductive Args (A : Dep → State → Val → Prop) (st : State) : List Dep → List Val → Prop
  | nil : Args A st [] []
  | cons {dep v deps vs} : A dep st v → Args A st deps vs → Args A st (dep :: deps) (v :: vs)

theorem Args.mem {A : Dep → State → Val → Prop} {st : State} {deps : List Dep} {args : List Val}
    (h : Args A st deps args) : ∀ v ∈ args, ∃ dep ∈ deps, A dep st v := by
  induction h with
  | nil => simp
  | cons ha _ ih =>
    intro v hv
    rcases List.mem_cons.1 hv with rfl | hv
    · exact ⟨_, by simp, ha⟩
    · obtain ⟨dep, hd, hA⟩ := ih v hv
      exact ⟨dep, List.mem_cons_of_mem _ hd, hA⟩

/-- A step relation `R` that keeps an invariant `I` while resolution runs in scope `s` over the registry `descs`:
`value` and `construct` say that the two steps which change the state respect it.

* `M d`: the registrations the rule speaks of; more than the registry (`fun _ => True`) for a statement that also
  holds of descriptors outside it, as `descs_frame` does.
* `C d`: the registrations whose construction the rule covers: all that resolution itself constructs (`covers`: a
  singleton is only looked up), and whatever else `createInstance` is applied to from outside (singletons at Build,
  initializers).
* `Q d st v`: what is known, in state `st`, of a value `v` that registration `d` answered with.
* `A dep st v`: what is known of the argument `v` built for dependency `dep`. -/
structure Rule (beh : Beh) (descs : List Desc) (s : Nat) where
  I : State → Prop
  R : State → State → Prop := fun _ b => I b
  M : Desc → Prop := (· ∈ descs)
  C : Desc → Prop
  Q : Desc → State → Val → Prop := fun _ _ _ => True
  A : Dep → State → Val → Prop := fun _ _ _ => True
  refl : ∀ {st}, I st → R st st := by exact fun h => h
  trans : ∀ {a b c}, R a b → R b c → R a c := by exact fun _ h => h
  inv : ∀ {a b}, I a → R a b → I b := by exact fun _ h => h
  reach : ∀ d ∈ descs, M d := by exact fun _ h => h
  covers : ∀ {d}, M d → d.life ≠ .singleton → C d
  qStable : ∀ {d a b v}, R a b → Q d a v → Q d b v := by exact fun _ _ => trivial
  aStable : ∀ {dep a b v}, R a b → A dep a v → A dep b v := by exact fun _ _ => trivial
  hitSingleton : ∀ {st d v}, st.descs = descs → I st → M d → d.life = .singleton →
    lookup st.singletons d.ident = some v → Q d st v := by exact fun _ _ _ _ _ => trivial
  hitScoped : ∀ {st d v}, st.descs = descs → I st → M d → d.life = .scoped →
    lookup ((st.scope s).instances.getD []) d.ident = some v → Q d st v := by exact fun _ _ _ _ _ => trivial
  argOne : ∀ {st dep v}, dep.grp = 0 → Answers descs Q s dep.ty dep.key st v → A dep st v := by exact fun _ _ => trivial
  argGroup : ∀ {st dep v}, dep.grp ≠ 0 → GroupAnswers descs Q dep.ty dep.grp st v → A dep st v := by
    exact fun _ _ => trivial
  argZero : ∀ {st dep}, dep.optional = true → A dep st .zero := by exact fun _ => trivial
  value : ∀ {st d v}, st.descs = descs → I st → C d → d.kind = .inst v → R st (provideValue st s d v).1
  valueAnswer : ∀ {st d v w}, st.descs = descs → I st → C d → d.kind = .inst v → (provideValue st s d v).2 = .ok w →
    Q d (provideValue st s d v).1 w := by exact fun _ _ _ _ _ => trivial
  construct : ∀ {st d args}, st.descs = descs → I st → C d → (∀ v, d.kind ≠ .inst v) → Args A st d.deps args →
    R st (construct beh st s d args).1
  constructAnswer : ∀ {st d args w}, st.descs = descs → I st → C d → (∀ v, d.kind ≠ .inst v) → Args A st d.deps args →
    (Container.construct beh st s d args).2 = .ok w → Q d (Container.construct beh st s d args).1 w := by
    exact fun _ _ _ _ _ _ => trivial

namespace Rule
variable {beh : Beh} {descs : List Desc} {s : Nat} (r : Rule beh descs s)

def Post {α} (st : State) (res : State × Except Err α) (P : State → α → Prop) : Prop :=
  res.1.descs = st.descs ∧ r.R st res.1 ∧ ∀ v, res.2 = .ok v → P res.1 v

theorem Post.fail {α} {st : State} {P : State → α → Prop} (h : r.I st) (e : Err) : r.Post st (st, .error e) P :=
  ⟨rfl, r.refl h, fun _ hv => by cases hv⟩

theorem Post.ret {α} {st : State} {P : State → α → Prop} (h : r.I st) {v : α} (hv : P st v) :
    r.Post st (st, .ok v) P :=
  ⟨rfl, r.refl h, fun w hw => by cases hw; exact hv⟩

theorem Post.failed {α β} {st : State} {res : State × Except Err α} {P : State → α → Prop} {P' : State → β → Prop}
    (h : r.Post st res P) (e : Err) : r.Post st (res.1, .error e) P' :=
  ⟨h.1, h.2.1, fun _ hv => by cases hv⟩

theorem Post.seq {α β} {st : State} {res : State × Except Err α} {res' : State × Except Err β}
    {P : State → α → Prop} {P' P'' : State → β → Prop}
    (h : r.Post st res P) (h' : r.Post res.1 res' P') (hP : ∀ v, res'.2 = .ok v → P' res'.1 v → P'' res'.1 v) :
    r.Post st res' P'' :=
  ⟨h'.1.trans h.1, r.trans h.2.1 h'.2.1, fun v hv => hP v hv (h'.2.2 v hv)⟩

theorem resolution : ∀ fuel,
    (∀ st ty key, st.descs = descs → r.I st →
      r.Post st (resolve beh fuel st s ty key) (Answers descs r.Q s ty key)) ∧
    (∀ st d, st.descs = descs → r.I st → r.M d → r.Post st (resolveDesc beh fuel st s d) (r.Q d)) ∧
    (∀ st ty grp, st.descs = descs → r.I st →
      r.Post st (getGroup beh fuel st s ty grp) (GroupAnswers descs r.Q ty grp)) ∧
    (∀ st ds acc, st.descs = descs → r.I st → (∀ d ∈ ds, r.M d) →
      r.Post st (resolveMembers beh fuel st s ds acc)
        (fun st' v => ∃ l, v = .group (acc ++ l) ∧ ∀ i ∈ l, ∃ m ∈ ds, r.Q m st' (.inst i))) ∧
    (∀ st deps acc, st.descs = descs → r.I st →
      r.Post st (buildArgs beh fuel st s deps acc)
        (fun st' args => ∃ l, args = acc ++ l ∧ Args r.A st' deps l)) ∧
    (∀ st d, st.descs = descs → r.I st → r.C d → r.Post st (createInstance beh fuel st s d) (r.Q d)) := by
  intro fuel
  induction fuel with
  | zero => exact ⟨fun _ _ _ _ h => .fail r h _, fun _ _ _ h _ => .fail r h _, fun _ _ _ _ h => .fail r h _,
      fun _ _ _ _ h _ => .fail r h _, fun _ _ _ _ h => .fail r h _, fun _ _ _ h _ => .fail r h _⟩
  | succ f ih =>
    obtain ⟨ihR, ihD, ihG, ihM, ihA, ihC⟩ := ih
    refine ⟨?_, ?_, ?_, ?_, ?_, ?_⟩
    · intro st ty key hd h
      unfold resolve
      split; · exact .fail r h _
      split
      next hb => exact .ret r h (.inl ⟨hb.1, .inl ⟨hb.2, rfl⟩⟩)
      split
      next hb => exact .ret r h (.inl ⟨hb.1, .inr (.inl ⟨hb.2, rfl⟩)⟩)
      split
      next hb => exact .ret r h (.inl ⟨hb.1, .inr (.inr ⟨hb.2, rfl⟩)⟩)
      split
      · exact .fail r h _
      next d hf =>
        rw [hd] at hf
        have hD := ihD st d hd h (r.reach d (List.mem_of_find?_eq_some hf))
        exact ⟨hD.1, hD.2.1, fun v hv => .inr ⟨d, hf, hD.2.2 v hv⟩⟩
    · intro st d hd h hm
      unfold resolveDesc
      split
      next hl =>
        split
        · exact .fail r h _
        next hv => exact .ret r h (r.hitSingleton hd h hm hl hv)
        · exact .fail r h _
      next hl =>
        split
        · exact .fail r h _
        next hv => exact .ret r h (r.hitScoped hd h hm hl hv)
        · exact ihC st d hd h (r.covers hm (by rw [hl]; simp))
      next hl => exact ihC st d hd h (r.covers hm (by rw [hl]; simp))
    · intro st ty grp hd h
      unfold getGroup
      split; · exact .fail r h _
      have hM := ihM st (groupMembers st.descs ty grp) [] hd h
        (fun d hm => r.reach d (hd ▸ (List.mem_filter.1 hm).1))
      refine ⟨hM.1, hM.2.1, fun v hv => ?_⟩
      obtain ⟨l, rfl, hl⟩ := hM.2.2 v hv
      exact ⟨l, rfl, fun i hi => hd ▸ hl i hi⟩
    · intro st ds acc hd h hds
      cases ds with
      | nil => unfold resolveMembers; exact .ret r h ⟨[], by simp, by simp⟩
      | cons d rest =>
        unfold resolveMembers
        have h1 := ihD st d hd h (hds d (by simp))
        have hd1 := h1.1.trans hd
        have hI1 := r.inv h h1.2.1
        have hrest := fun x hx => hds x (List.mem_cons_of_mem _ hx)
        dsimp only
        split
        next i hv =>
          refine .seq r h1 (ihM _ rest _ hd1 hI1 hrest) ?_
          rintro v hv' ⟨l, rfl, hl⟩
          refine ⟨i :: l, by simp, ?_⟩
          intro j hj
          rcases List.mem_cons.1 hj with rfl | hj
          · exact ⟨d, by simp, r.qStable (ihM _ rest _ hd1 hI1 hrest).2.1 (h1.2.2 _ hv)⟩
          · obtain ⟨m, hm, hq⟩ := hl j hj
            exact ⟨m, List.mem_cons_of_mem _ hm, hq⟩
        · refine .seq r h1 (ihM _ rest _ hd1 hI1 hrest) ?_
          rintro v hv' ⟨l, rfl, hl⟩
          exact ⟨l, rfl, fun j hj => (hl j hj).imp fun m hm => ⟨List.mem_cons_of_mem _ hm.1, hm.2⟩⟩
        · exact h1.failed r _
    · intro st deps acc hd h
      cases deps with
      | nil => unfold buildArgs; exact .ret r h ⟨[], by simp, .nil⟩
      | cons dep rest =>
        unfold buildArgs
        dsimp only
        generalize hr : (if dep.grp != 0 then getGroup beh f st s dep.ty dep.grp
            else resolve beh f st s dep.ty dep.key) = res
        have h1 : r.Post st res (r.A dep) := by
          rw [← hr]
          split
          next hg =>
            have hG := ihG st dep.ty dep.grp hd h
            exact ⟨hG.1, hG.2.1, fun v hv => r.argGroup (by simpa using hg) (hG.2.2 v hv)⟩
          next hg =>
            have hR := ihR st dep.ty dep.key hd h
            exact ⟨hR.1, hR.2.1, fun v hv => r.argOne (by simpa using hg) (hR.2.2 v hv)⟩
        have hd1 := h1.1.trans hd
        have hI1 := r.inv h h1.2.1
        have next : ∀ a, r.A dep res.1 a →
            r.Post st (buildArgs beh f res.1 s rest (acc ++ [a]))
              (fun st' args => ∃ l, args = acc ++ l ∧ Args r.A st' (dep :: rest) l) := by
          intro a ha
          refine .seq r h1 (ihA _ rest _ hd1 hI1) ?_
          rintro v hv' ⟨l, rfl, hl⟩
          exact ⟨a :: l, by simp, .cons (r.aStable (ihA _ rest _ hd1 hI1).2.1 ha) hl⟩
        split
        next v hv => exact next v (h1.2.2 v hv)
        · split
          next ho => exact next .zero (r.argZero (by simp at ho; exact ho.1))
          · exact h1.failed r _
    · intro st d hd h hc
      rw [createInstance_succ]
      split
      next v hk =>
        exact ⟨(provideValue_sameRegistry ..).1, r.value hd h hc hk, fun _ hw => r.valueAnswer hd h hc hk hw⟩
      next hk =>
        dsimp only
        have hA := ihA st d.deps [] hd h
        split
        · exact hA.failed r _
        next args hargs =>
          obtain ⟨l, hl, hargs'⟩ := hA.2.2 args hargs
          rw [List.nil_append] at hl
          subst hl
          have hd1 := hA.1.trans hd
          have hI1 := r.inv h hA.2.1
          exact .seq r hA ⟨(construct_sameRegistry ..).1, r.construct hd1 hI1 hc hk hargs',
            fun _ hw => r.constructAnswer hd1 hI1 hc hk hargs' hw⟩ (fun _ _ hq => hq)

theorem resolve_step (fuel : Nat) (st : State) (ty key : Nat) (hd : st.descs = descs) (h : r.I st) :
    r.R st (resolve beh fuel st s ty key).1 := ((r.resolution fuel).1 st ty key hd h).2.1

theorem getGroup_step (fuel : Nat) (st : State) (ty grp : Nat) (hd : st.descs = descs) (h : r.I st) :
    r.R st (getGroup beh fuel st s ty grp).1 := ((r.resolution fuel).2.2.1 st ty grp hd h).2.1

theorem createInstance_step (fuel : Nat) (st : State) (d : Desc) (hd : st.descs = descs) (h : r.I st)
    (hc : r.C d) : r.R st (createInstance beh fuel st s d).1 :=
  ((r.resolution fuel).2.2.2.2.2 st d hd h hc).2.1

theorem buildArgs_step (fuel : Nat) (st : State) (deps : List Dep) (acc : List Val) (hd : st.descs = descs) (h : r.I st) :
    r.R st (buildArgs beh fuel st s deps acc).1 := ((r.resolution fuel).2.2.2.2.1 st deps acc hd h).2.1

end Rule

def Rule.ofSteps (beh : Beh) {R : State → State → Prop} (refl : ∀ st, R st st)
    (trans : ∀ {a b c}, R a b → R b c → R a c) (value : ∀ st s d v, R st (provideValue st s d v).1)
    (constr : ∀ st s d args, R st (Container.construct beh st s d args).1) (descs : List Desc) (s : Nat) :
    Rule beh descs s where
  I := fun _ => True
  R := R
  M := fun _ => True
  C := fun _ => True
  refl := fun _ => refl _
  trans := trans
  inv := fun _ _ => trivial
  reach := fun _ _ => trivial
  covers := fun _ _ => trivial
  value := fun _ _ _ _ => value ..
  construct := fun _ _ _ _ _ => constr ..

theorem Rule.ofAllSteps (beh : Beh) {R : State → State → Prop} (refl : ∀ st, R st st)
    (trans : ∀ {a b c}, R a b → R b c → R a c) (value : ∀ st s d v, R st (provideValue st s d v).1)
    (constr : ∀ st s d args, R st (Container.construct beh st s d args).1) (fuel : Nat) :
    (∀ st s ty key, R st (resolve beh fuel st s ty key).1) ∧
    (∀ st s d, R st (resolveDesc beh fuel st s d).1) ∧
    (∀ st s ty grp, R st (getGroup beh fuel st s ty grp).1) ∧
    (∀ st s ds acc, R st (resolveMembers beh fuel st s ds acc).1) ∧
    (∀ st s deps acc, R st (buildArgs beh fuel st s deps acc).1) ∧
    (∀ st s d, R st (createInstance beh fuel st s d).1) :=
  -- the rule is a constant, not a local definition: projections of a local structure literal are slow to check
  have h := fun (st : State) s => (Rule.ofSteps beh refl trans value constr st.descs s).resolution fuel
  ⟨fun st s ty key => ((h st s).1 st ty key rfl trivial).2.1,
    fun st s d => ((h st s).2.1 st d rfl trivial trivial).2.1,
    fun st s ty grp => ((h st s).2.2.1 st ty grp rfl trivial).2.1,
    fun st s ds acc => ((h st s).2.2.2.1 st ds acc rfl trivial (fun _ _ => trivial)).2.1,
    fun st s deps acc => ((h st s).2.2.2.2.1 st deps acc rfl trivial).2.1,
    fun st s d => ((h st s).2.2.2.2.2 st d rfl trivial trivial).2.1⟩

theorem descs_frame (beh : Beh) : ∀ fuel,
    (∀ st s ty key, (resolve beh fuel st s ty key).1.descs = st.descs) ∧
    (∀ st s d, (resolveDesc beh fuel st s d).1.descs = st.descs) ∧
    (∀ st s ty grp, (getGroup beh fuel st s ty grp).1.descs = st.descs) ∧
    (∀ st s ds acc, (resolveMembers beh fuel st s ds acc).1.descs = st.descs) ∧
    (∀ st s deps acc, (buildArgs beh fuel st s deps acc).1.descs = st.descs) ∧
    (∀ st s d, (createInstance beh fuel st s d).1.descs = st.descs) :=
  Rule.ofAllSteps beh (R := fun a b => b.descs = a.descs) (fun _ => rfl) (fun h1 h2 => h2.trans h1)
    (fun _ _ _ _ => (provideValue_sameRegistry ..).1) (fun _ _ _ _ => (construct_sameRegistry ..).1)

/-! ### `Close`

`closeScope` marks the scope and takes its child table (`enter`), closes the children, takes and drains
its disposal list (`drain`), detaches the scope and drops its cache (`leave`). A `CloseRule` is a step
relation these three steps respect; `CloseRule.close` says `closeScope` and `closeChildren` respect it.
Scopes once disposed stay disposed, so `drain` and `leave` may assume the flag. -/

/-- the event `Close` logs for instance `i` of `owner`: whether its `Close` method succeeds is the behaviour's -/
def closedEv (beh : Beh) (st : State) (owner : Nat) (i : Inst) : Event :=
  .closed owner i (!beh.close (st.instMeta i).1 (st.instMeta i).2)

@[simp] theorem logClosed_instMeta (st : State) (o : Nat) (i : Inst) (ok : Bool) :
    (logClosed st o i ok).instMeta = st.instMeta := rfl
@[simp] theorem logClosed_log (st : State) (o : Nat) (i : Inst) (ok : Bool) :
    (logClosed st o i ok).log = st.log ++ [.closed o i ok] := rfl
@[simp] theorem logClosed_scope (st : State) (o : Nat) (i : Inst) (ok : Bool) :
    (logClosed st o i ok).scope = st.scope := rfl

theorem closedEv_logClosed (beh : Beh) (st : State) (o : Nat) (i : Inst) (ok : Bool) (owner : Nat) :
    closedEv beh (logClosed st o i ok) owner = closedEv beh st owner := rfl

theorem closeLoop_eq (beh : Beh) (owner : Nat) : ∀ (l : List Inst) (st : State),
    (closeLoop beh owner st l).1 = { st with log := st.log ++ l.map (closedEv beh st owner) }
  | [], st => by simp [closeLoop]
  | i :: rest, st => by
    unfold closeLoop
    dsimp only
    rw [closeLoop_eq beh owner rest]
    show ({ st with log := (st.log ++ [_]) ++ _ } : State) = _
    rw [List.append_assoc]
    rfl

theorem closeLoop_err (beh : Beh) (owner : Nat) : ∀ (l : List Inst) (st : State),
    (closeLoop beh owner st l).2 = true ↔ ∃ i ∈ l, beh.close (st.instMeta i).1 (st.instMeta i).2 = true
  | [], st => by simp [closeLoop]
  | i :: rest, st => by
    unfold closeLoop
    simp only [Bool.or_eq_true, closeLoop_err beh owner rest, logClosed_instMeta, List.mem_cons]
    constructor
    · rintro (h | ⟨x, hx, hb⟩)
      · exact ⟨i, Or.inl rfl, h⟩
      · exact ⟨x, Or.inr hx, hb⟩
    · rintro ⟨x, rfl | hx, hb⟩
      · exact Or.inl hb
      · exact Or.inr ⟨x, hx, hb⟩

theorem mark_self (st : State) (s : Nat) :
    (takeChildren (markDisposed st s) s).scope s = { st.scope s with disposed := true, children := none } := by
  simp [takeChildren, markDisposed, updScope]

theorem mark_other (st : State) (s x : Nat) (h : x ≠ s) : (takeChildren (markDisposed st s) s).scope x = st.scope x := by
  simp [takeChildren, markDisposed, updScope, h]

theorem closeScope_cases (beh : Beh) (order : List Nat → List Nat) (f : Nat) (st : State) (s : Nat)
    {M : State × Bool → Prop} (closed : (st.scope s).disposed = true → M (st, false))
    (run : (st.scope s).disposed = false → ∀ (r1 r2 : State × Bool),
      r1 = closeChildren beh order f (takeChildren (markDisposed st s) s) (order ((st.scope s).children.getD [])) →
      r2 = closeLoop beh s (takeDisposables r1.1 s) ((r1.1.scope s).disposables.getD []).reverse →
      M (dropInstances (detach r2.1 s) s, r1.2 || r2.2)) :
    M (closeScope beh order (f + 1) st s) := by
  unfold closeScope
  split
  next h => exact closed h
  next h => exact run (Bool.eq_false_iff.2 h) _ _ rfl rfl

theorem closeProvider_cases (beh : Beh) (order : List Nat → List Nat) (st : State) {M : State × Bool → Prop}
    (refused : st.disposed = true → M (st, false))
    (closed : st.disposed = false → ∀ (f : Nat) (r1 r2 r3 : State × Bool),
      (order (st.provScopes.getD [])).length + 1 ≤ f →
      r1 = closeChildren beh order f { st with disposed := true, provScopes := none } (order (st.provScopes.getD [])) →
      r2 = closeScope beh order (closeFuel r1.1) r1.1 rootScope →
      r3 = closeLoop beh providerOwner { r2.1 with provDisposables := none } (r2.1.provDisposables.getD []).reverse →
      M ({ r3.1 with singletons := [], initializers := [] }, r1.2 || r2.2 || r3.2)) :
    M (closeProvider beh order st) := by
  unfold closeProvider
  split
  next h => exact refused h
  next h => exact closed (Bool.eq_false_iff.2 h) _ _ _ _ (by omega) rfl rfl rfl

def DispMono (st st' : State) : Prop := ∀ x, (st.scope x).disposed = true → (st'.scope x).disposed = true

theorem DispMono.refl (st : State) : DispMono st st := fun _ h => h
theorem DispMono.trans {a b c : State} (h1 : DispMono a b) (h2 : DispMono b c) : DispMono a c :=
  fun x h => h2 x (h1 x h)

theorem updScope_dispMono (st : State) (s : Nat) (f : ScopeSt → ScopeSt)
    (h : ∀ sc, sc.disposed = true → (f sc).disposed = true) : DispMono st (updScope st s f) := by
  intro x hx
  by_cases hxs : x = s
  · subst hxs; simp [updScope]; exact h _ hx
  · simp [updScope, hxs]; exact hx

theorem closeLoop_scope (beh : Beh) (owner : Nat) (l : List Inst) (st : State) :
    (closeLoop beh owner st l).1.scope = st.scope := by rw [closeLoop_eq]

theorem detach_dispMono (st : State) (s : Nat) : DispMono st (detach st s) := by
  intro x hx
  unfold detach
  split
  next p _ =>
    exact updScope_dispMono st p
      (fun sc => { sc with children := sc.children.map (fun (l : List Nat) => List.erase l s) }) (fun _ h => h) x hx
  · exact hx

theorem closeTail_dispMono (beh : Beh) (s : Nat) (r : State) (l : List Inst) :
    DispMono r (dropInstances (detach (closeLoop beh s (takeDisposables r s) l).1 s) s) := by
  have h1 : DispMono r (takeDisposables r s) := updScope_dispMono _ s _ (fun _ h => h)
  have h2 : DispMono (takeDisposables r s) (closeLoop beh s (takeDisposables r s) l).1 := by
    intro x hx; rw [closeLoop_scope]; exact hx
  exact ((h1.trans h2).trans (detach_dispMono _ s)).trans (updScope_dispMono _ s _ (fun _ h => h))

structure CloseRule (beh : Beh) where
  I : State → Prop
  R : State → State → Prop := fun _ b => I b
  refl : ∀ {st}, I st → R st st := by exact fun h => h
  trans : ∀ {a b c}, R a b → R b c → R a c := by exact fun _ h => h
  inv : ∀ {a b}, I a → R a b → I b := by exact fun _ h => h
  enter : ∀ {st} s, I st → (st.scope s).disposed = false → R st (takeChildren (markDisposed st s) s)
  drain : ∀ {st} s, I st → (st.scope s).disposed = true →
    R st (closeLoop beh s (takeDisposables st s) ((st.scope s).disposables.getD []).reverse).1
  leave : ∀ {st} s, I st → (st.scope s).disposed = true → R st (dropInstances (detach st s) s)

theorem CloseRule.close {beh : Beh} (r : CloseRule beh) (order : List Nat → List Nat) : ∀ fuel,
    (∀ st s, r.I st → r.R st (closeScope beh order fuel st s).1 ∧ DispMono st (closeScope beh order fuel st s).1) ∧
    (∀ st l, r.I st → r.R st (closeChildren beh order fuel st l).1 ∧ DispMono st (closeChildren beh order fuel st l).1) := by
  intro fuel
  induction fuel with
  | zero => exact ⟨fun st _ h => ⟨r.refl h, .refl st⟩, fun st _ h => ⟨r.refl h, .refl st⟩⟩
  | succ f ih =>
    obtain ⟨ihS, ihC⟩ := ih
    refine ⟨?_, ?_⟩
    · intro st s h
      refine closeScope_cases beh order f st s (M := fun x => r.R st x.1 ∧ DispMono st x.1)
        (fun _ => ⟨r.refl h, .refl st⟩) (fun hopen r1 r2 e1 e2 => ?_)
      have h1 := r.enter s h hopen
      have m1 : DispMono st (takeChildren (markDisposed st s) s) :=
        (updScope_dispMono st s _ (fun _ _ => rfl)).trans (updScope_dispMono _ s _ (fun _ h => h))
      obtain ⟨h2, m2⟩ : r.R (takeChildren (markDisposed st s) s) r1.1 ∧ DispMono (takeChildren (markDisposed st s) s) r1.1 :=
        e1 ▸ ihC _ _ (r.inv h h1)
      -- `s` is marked, and stays so
      have hs2 : (r1.1.scope s).disposed = true := m2 s (by rw [mark_self])
      have hI2 := r.inv (r.inv h h1) h2
      have h3 : r.R r1.1 r2.1 := e2 ▸ r.drain s hI2 hs2
      have hs3 : (r2.1.scope s).disposed = true := by
        rw [e2, closeLoop_scope]
        exact updScope_dispMono r1.1 s (fun sc => { sc with disposables := none }) (fun _ h => h) s hs2
      exact ⟨r.trans (r.trans (r.trans h1 h2) h3) (r.leave s (r.inv hI2 h3) hs3),
        (m1.trans m2).trans (e2 ▸ closeTail_dispMono beh s r1.1 _)⟩
    · intro st l h
      cases l with
      | nil => exact ⟨r.refl h, .refl st⟩
      | cons c rest =>
        unfold closeChildren
        obtain ⟨h1, m1⟩ := ihS st c h
        obtain ⟨h2, m2⟩ := ihC _ rest (r.inv h h1)
        exact ⟨r.trans h1 h2, m1.trans m2⟩

def CloseRule.ofFrame (beh : Beh) (R : State → State → Prop) (refl : ∀ st, R st st)
    (trans : ∀ {a b c}, R a b → R b c → R a c) (upd : ∀ st s f, R st (updScope st s f))
    (log : ∀ st o i ok, R st (logClosed st o i ok))
    (prov : ∀ (st : State) f, R st { st with provScopes := st.provScopes.map f }) : CloseRule beh where
  I := fun _ => True
  R := R
  refl := fun _ => refl _
  trans := trans
  inv := fun _ _ => trivial
  enter := fun s _ _ => trans (upd _ s _) (upd _ s _)
  drain := fun {st} s _ _ => by
    have loop : ∀ (l : List Inst) (st : State), R st (closeLoop beh s st l).1 := by
      intro l
      induction l with
      | nil => exact fun st => refl st
      | cons i rest ih => exact fun st => trans (log st s i _) (ih _)
    exact trans (upd st s _) (loop _ _)
  leave := fun {st} s _ _ => by
    refine trans ?_ (upd (detach st s) s _)
    unfold detach
    split
    · exact trans (upd st _ _) (prov _ _)
    · exact prov st _

theorem closeScope_dispMono (beh : Beh) (order : List Nat → List Nat) (fuel : Nat) :
    (∀ st s, DispMono st (closeScope beh order fuel st s).1) ∧
    (∀ st l, DispMono st (closeChildren beh order fuel st l).1) :=
  let r : CloseRule beh := ⟨fun _ => True, fun _ _ => True, fun _ => trivial, fun _ _ => trivial, fun _ _ => trivial,
    fun _ _ _ => trivial, fun _ _ _ => trivial, fun _ _ _ => trivial⟩
  ⟨fun st s => ((r.close order fuel).1 st s trivial).2, fun st l => ((r.close order fuel).2 st l trivial).2⟩

theorem closeScope_nscopes (beh : Beh) (order : List Nat → List Nat) (fuel : Nat) (st : State) (s : Nat) :
    (closeScope beh order fuel st s).1.nscopes = st.nscopes :=
  (((CloseRule.ofFrame beh (fun a b => b.nscopes = a.nscopes) (fun _ => rfl) (fun h1 h2 => h2.trans h1) (fun _ _ _ => rfl)
    (fun _ _ _ _ => rfl) (fun _ _ => rfl)).close order fuel).1 st s trivial).1

end Godi.Container
