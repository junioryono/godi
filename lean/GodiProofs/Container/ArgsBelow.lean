import GodiProofs.Container.Stores
/-!
# What a constructor receives was created before what it produces

Instance ids are handed out by a counter after the constructor has returned. `AB st`: every instance id stored in
the singleton table or in a scope cache is below the counter, and in every constructor event of the log every id
among the arguments is smaller than every id among the products. It is an invariant over the values the tables
hold (`abStores`); values handed out are below the counter of the state they are handed out in (`abRule`). With
`Order.lean` (a scope's disposal list is increasing in id, `Close` walks it backwards): an instance is closed
before every instance of the same scope that it received as an argument.
-/
namespace Godi.Container

def idsOf : Val → List Inst
  | .inst i => [i]
  | .group l => l
  | _ => []

def ValBelow (v : Val) (b : Nat) : Prop := ∀ i ∈ idsOf v, i < b

def MapBelow (m : List (Ident × Val)) (b : Nat) : Prop := ∀ k v, lookup m k = some v → ValBelow v b

def EvBelow : Event → Prop
  | .ctor _ _ _ _ args outs => ∀ a ∈ outs, ∀ v ∈ args, ∀ i ∈ idsOf v, i < a
  | _ => True

structure AB (st : State) : Prop where
  sing : MapBelow st.singletons st.next
  inst : ∀ x, MapBelow ((st.scope x).instances.getD []) st.next
  evs : ∀ e ∈ st.log, EvBelow e

theorem ValBelow.mono {v : Val} {b b' : Nat} (h : ValBelow v b) (hb : b ≤ b') : ValBelow v b' :=
  fun i hi => Nat.lt_of_lt_of_le (h i hi) hb

theorem valBelow_inst {i b : Nat} (h : i < b) : ValBelow (.inst i) b :=
  fun j hj => by rw [List.mem_singleton.1 hj]; exact h

theorem valBelow_nil {v : Val} {b : Nat} (h : idsOf v = []) : ValBelow v b :=
  fun i hi => by rw [h] at hi; cases hi

/-- `AB`, with the counter above the registered instance values -/
def ABI (descs : List Desc) (st : State) : Prop := AB st ∧ firstFresh descs ≤ st.next

theorem abStores (descs : List Desc) : Stores (ABI descs) (fun _ st v => ValBelow v st.next) (fun _ e => EvBelow e) where
  step := fun h _ hs m hl hc => by
    obtain ⟨new, hlog, hnew⟩ := hl
    refine ⟨⟨fun k v hk => (h.1.sing k v (hs ▸ hk)).mono m.1, fun x k v hk => (h.1.inst x k v (hc x k v hk)).mono m.1,
      fun e he => ?_⟩, Nat.le_trans h.2 m.1⟩
    rw [hlog] at he
    exact (List.mem_append.1 he).elim (h.1.evs e) (hnew e)
  closed := trivial
  fail := trivial
  single := fun k _ h hv => by
    refine ⟨⟨fun k' v' hk => ?_, h.1.inst, h.1.evs⟩, h.2⟩
    rcases lookup_cachePut hk with rfl | hk
    · exact hv
    · exact h.1.sing k' v' hk
  put := fun s k _ h hv => by
    refine ⟨⟨h.1.sing, fun x k' v' hk => ?_, h.1.evs⟩, h.2⟩
    rcases cache_putInstance hk with rfl | hk
    · exact hv
    · exact h.1.inst x k' v' hk
  stable := fun m h => h.mono m.1
  absent := valBelow_nil rfl
  unit := valBelow_nil rfl

theorem ab_value {descs : List Desc} {st : State} (h : ABI descs st) (s : Nat) {d : Desc} (hd : d ∈ descs) {v : Inst}
    (hk : d.kind = .inst v) :
    After (ABI descs) st (provideValue st s d v).1 ∧
    ∀ w, (provideValue st s d v).2 = .ok w → ValBelow w (provideValue st s d v).1.next :=
  (abStores descs).provideValue h s d fun _ _ =>
    valBelow_inst (Nat.lt_of_lt_of_le (instVal_lt_firstFresh descs d hd v hk) h.2)

/-- the products are allocated above everything the arguments mention -/
theorem ab_construct {descs : List Desc} (beh : Beh) {st : State} (h : ABI descs st) (s : Nat) (d : Desc)
    {args : List Val} (hargs : ∀ v ∈ args, ValBelow v st.next) :
    After (ABI descs) st (construct beh st s d args).1 ∧
    ∀ w, (construct beh st s d args).2 = .ok w → ValBelow w (construct beh st s d args).1.next :=
  (abStores descs).construct beh h s
    (fun _ _ _ ho a ha v hv i hi => Nat.lt_of_lt_of_le (hargs v hv i hi) (ho a ha))
    fun _ _ _ _ _ _ _ _ _ h2 => valBelow_inst h2

/-- `AB` as a rule of resolution: whatever is answered or built as an argument is below the counter -/
def abRule (beh : Beh) (descs : List Desc) (s : Nat) : Rule beh descs s where
  I := ABI descs
  R := After (ABI descs)
  C := (· ∈ descs)
  Q := fun _ st v => ValBelow v st.next
  A := fun _ st v => ValBelow v st.next
  refl := .refl
  trans := .trans
  inv := fun _ r => r.inv
  covers := fun h _ => h
  qStable := fun r h => h.mono r.le.1
  aStable := fun r h => h.mono r.le.1
  hitSingleton := fun _ h _ _ hv => h.1.sing _ _ hv
  hitScoped := fun _ h _ _ hv => h.1.inst s _ _ hv
  argOne := fun _ h => by
    rcases h with ⟨_, ⟨_, rfl⟩ | ⟨_, rfl⟩ | ⟨_, rfl⟩⟩ | ⟨_, _, hq⟩
    · exact valBelow_nil rfl
    · exact valBelow_nil rfl
    · exact valBelow_nil rfl
    · exact hq
  argGroup := fun _ h => by
    obtain ⟨l, rfl, hl⟩ := h
    intro i hi
    obtain ⟨_, _, hq⟩ := hl i hi
    exact hq i (List.mem_singleton.2 rfl)
  argZero := fun _ => valBelow_nil rfl
  value := fun _ h hc hk => (ab_value h s hc hk).1
  valueAnswer := fun _ h hc hk hw => (ab_value h s hc hk).2 _ hw
  construct := fun _ h _ _ ha => (ab_construct beh h s _ fun v hv => let ⟨_, _, hA⟩ := ha.mem v hv; hA).1
  constructAnswer := fun _ h _ _ ha hw => (ab_construct beh h s _ fun v hv => let ⟨_, _, hA⟩ := ha.mem v hv; hA).2 _ hw

def abInvariant (beh : Beh) (descs : List Desc) : Invariant beh descs where
  I := ABI descs
  quiet := fun h q => ((abStores descs).quiet h q).inv
  resolve := fun fuel s ty key hd h => ((abRule beh descs s).resolve_step fuel _ ty key hd h).inv
  getGroup := fun fuel s ty grp hd h => ((abRule beh descs s).getGroup_step fuel _ ty grp hd h).inv
  create := fun fuel s d hd h hm => ((abRule beh descs s).createInstance_step fuel _ d hd h hm).inv

theorem ab_run (beh : Beh) (descs : List Desc) : ∀ (ops : List Op) (st : State), st.descs = descs →
    firstFresh descs ≤ st.next → AB st → AB (run beh st ops) :=
  fun ops st hd hff h => ((abInvariant beh descs).run ops st hd ⟨h, hff⟩).1

/-- the state a successful Build returns: arguments are older than products, tables mention existing instances only -/
theorem ab_buildRuntime (beh : Beh) (descs : List Desc) (order : List Nat)
    (hok : (buildRuntime beh descs order).2 = .ok ()) :
    AB (buildRuntime beh descs order).1 ∧ firstFresh descs ≤ (buildRuntime beh descs order).1.next :=
  ((abInvariant beh descs).build
    ⟨⟨fun k v h => absurd h ((buildStart_holds_nothing descs).1 k v),
      fun x k v h => absurd h ((buildStart_holds_nothing descs).2 x k v), nofun⟩, Nat.le_refl _⟩ order hok).1

end Godi.Container
