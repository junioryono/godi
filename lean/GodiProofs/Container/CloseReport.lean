import GodiProofs.Container.Close
/-!
# What `Close` reports, end to end (C12)

`Close` of a scope — with every descendant it reaches, for every iteration order of the child tables, every
amount of fuel and every set of failing `Close()` methods — appends only `closed` events to the log, and
returns an error exactly when one of the events it appended records a failed `Close()`. The same for
`provider.Close`. This is the statement "returns a disposal error exactly when at least one of them
(anywhere in its subtree) failed and nil otherwise" without a bound on the depth or the width of the tree.
-/
namespace Godi.Container

def OnlyClosed (evs : List Event) : Prop := ∀ e ∈ evs, ∃ o i ok, e = Event.closed o i ok
/-- one of the events records a `Close()` that returned an error -/
def FailedIn (evs : List Event) : Prop := ∃ o i, Event.closed o i false ∈ evs

def Reported (st : State) (r : State × Bool) : Prop :=
  ∃ evs, r.1.log = st.log ++ evs ∧ OnlyClosed evs ∧ (r.2 = true ↔ FailedIn evs)

theorem reported_refl (st : State) : Reported st (st, false) :=
  ⟨[], by simp, fun e he => (by cases he), by simp [FailedIn]⟩

theorem failedIn_append (a b : List Event) : FailedIn (a ++ b) ↔ FailedIn a ∨ FailedIn b := by
  simp only [FailedIn, List.mem_append, exists_or]

theorem onlyClosed_append {a b : List Event} (ha : OnlyClosed a) (hb : OnlyClosed b) : OnlyClosed (a ++ b) :=
  fun e he => (List.mem_append.1 he).elim (ha e) (hb e)

theorem reported_seq {st : State} {r1 r2 : State × Bool} (st' st'' : State) (hl : st'.log = r1.1.log)
    (hl' : st''.log = r2.1.log) (h1 : Reported st r1) (h2 : Reported st' r2) : Reported st (st'', r1.2 || r2.2) := by
  obtain ⟨e1, l1, o1, f1⟩ := h1
  obtain ⟨e2, l2, o2, f2⟩ := h2
  refine ⟨e1 ++ e2, ?_, onlyClosed_append o1 o2, ?_⟩
  · simp only [hl', l2, hl, l1, List.append_assoc]
  · simp only [Bool.or_eq_true, f1, f2, failedIn_append]

theorem closeLoop_reported (beh : Beh) (owner : Nat) (l : List Inst) (st : State) :
    Reported st (closeLoop beh owner st l) := by
  refine ⟨l.map (closedEv beh st owner), by rw [closeLoop_eq], ?_, ?_⟩
  · intro e he
    obtain ⟨i, _, rfl⟩ := List.mem_map.1 he
    exact ⟨owner, i, _, rfl⟩
  · rw [closeLoop_err]
    unfold FailedIn
    constructor
    · rintro ⟨i, hi, hb⟩
      refine ⟨owner, i, List.mem_map.2 ⟨i, hi, ?_⟩⟩
      simp [closedEv, hb]
    · rintro ⟨o, i, h⟩
      obtain ⟨j, hj, he⟩ := List.mem_map.1 h
      simp only [closedEv, Event.closed.injEq, Bool.not_eq_false'] at he
      exact ⟨j, hj, he.2.2⟩

theorem Reported.start {st st0 : State} {r : State × Bool} (h : st.log = st0.log) (hr : Reported st r) :
    Reported st0 r := by
  obtain ⟨e, l, o, f⟩ := hr
  exact ⟨e, by rw [l, h], o, f⟩

theorem close_reported (beh : Beh) (order : List Nat → List Nat) : ∀ f : Nat,
    (∀ st s, Reported st (closeScope beh order f st s)) ∧
    (∀ st l, Reported st (closeChildren beh order f st l)) := by
  intro f
  induction f with
  | zero => exact ⟨fun st _ => reported_refl st, fun st _ => reported_refl st⟩
  | succ f ih =>
    obtain ⟨ihS, ihC⟩ := ih
    refine ⟨?_, ?_⟩
    · intro st s
      refine closeScope_cases beh order f st s (M := Reported st) (fun _ => reported_refl st) (fun _ r1 r2 e1 e2 => ?_)
      have hC : Reported st r1 := e1 ▸ (ihC (takeChildren (markDisposed st s) s) _).start (st0 := st) rfl
      have hL : Reported (takeDisposables r1.1 s) r2 := e2 ▸ closeLoop_reported beh s _ _
      exact reported_seq (takeDisposables r1.1 s) _ rfl (detach_log r2.1 s) hC hL
    · intro st l
      cases l with
      | nil => exact reported_refl st
      | cons c rest =>
        unfold closeChildren
        exact reported_seq _ _ rfl rfl (ihS st c) (ihC _ rest)

theorem closeProvider_reported (beh : Beh) (order : List Nat → List Nat) (st : State) :
    Reported st (closeProvider beh order st) := by
  refine closeProvider_cases beh order st (M := Reported st) (fun _ => reported_refl st) (fun _ f r1 r2 r3 _ e1 e2 e3 => ?_)
  have h1 : Reported st r1 := e1 ▸ ((close_reported beh order f).2 { st with disposed := true, provScopes := none }
    (order (st.provScopes.getD []))).start (st0 := st) rfl
  have h2 : Reported r1.1 r2 := e2 ▸ (close_reported beh order (closeFuel r1.1)).1 r1.1 rootScope
  have h3 : Reported { r2.1 with provDisposables := none } r3 := e3 ▸ closeLoop_reported beh providerOwner _ _
  exact reported_seq _ _ rfl rfl (reported_seq _ r2.1 rfl rfl h1 h2) h3

end Godi.Container
