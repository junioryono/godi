import GodiProofs.Container.TreeOps
import GodiModel.Ctx
/-!
# Cancelling a context closes every scope created with it (or with a context derived from it)

`CtxDerives` / `ScopeUnder` say declaratively which scopes a cancellation ends; the executable walks of M4
(`ctxUnder`, `scopeCtxChain`) decide them; `cancelCtx` closes each of these scopes, keeps the forest invariant,
and everything closed stays closed.
-/
namespace Godi.Container

/-- contexts are derived from older contexts -/
def CtxWF (st : State) : Prop := ∀ c, c ≠ 0 → st.ctxParent c < c

inductive CtxDerives (st : State) (x : Nat) : Nat → Prop
  | self : x ≠ 0 → CtxDerives st x x
  | step {c : Nat} : c ≠ 0 → c ≠ x → CtxDerives st x (st.ctxParent c) → CtxDerives st x c

theorem ctxUnder_iff (st : State) (x : Nat) (wfc : CtxWF st) : ∀ (f c : Nat), c < f →
    (ctxUnder st f c x = true ↔ CtxDerives st x c) := by
  intro f
  induction f with
  | zero => intro c hc; exact absurd hc (Nat.not_lt_zero c)
  | succ f ih =>
    intro c hc
    unfold ctxUnder
    split
    next h0 =>
      have h0 : c = 0 := by simpa using h0
      refine ⟨fun h => (by cases h), fun h => ?_⟩
      cases h with
      | self h => exact absurd h0 h
      | step h _ _ => exact absurd h0 h
    next h0 =>
      have h0 : c ≠ 0 := by simpa using h0
      split
      next hx => exact ⟨fun _ => (by simpa using hx : c = x) ▸ .self h0, fun _ => rfl⟩
      next hx =>
        have hx : c ≠ x := by simpa using hx
        rw [ih (st.ctxParent c) (Nat.lt_of_lt_of_le (wfc c h0) (Nat.le_of_lt_succ hc))]
        refine ⟨.step h0 hx, fun h => ?_⟩
        cases h with
        | self _ => exact absurd rfl hx
        | step _ _ h => exact h

theorem ctxDerives_congr {st st0 : State} (h : st0.ctxParent = st.ctxParent) {x c : Nat} (d : CtxDerives st x c) :
    CtxDerives st0 x c := by
  induction d with
  | self h' => exact .self h'
  | step a b _ ih => exact .step a b (by rw [h]; exact ih)

/-- the context of scope `s` is `x` or derived from it -/
inductive ScopeUnder (st : State) (x : Nat) : Nat → Prop
  | own {s : Nat} : (st.scope s).ctxOf ≠ 0 → CtxDerives st x (st.scope s).ctxOf → ScopeUnder st x s
  | inherit {s p : Nat} : (st.scope s).ctxOf = 0 → (st.scope s).parent = some p → p ≠ rootScope →
      ScopeUnder st x p → ScopeUnder st x s

theorem scopeCtxChain_iff (st : State) (x : Nat) (wfc : CtxWF st)
    (hold : ∀ s p, s < st.nscopes → (st.scope s).parent = some p → p < s) : ∀ (f s : Nat), s < f → s < st.nscopes →
    (scopeCtxChain st f s x = true ↔ ScopeUnder st x s) := by
  intro f
  induction f with
  | zero => intro s hs; exact absurd hs (Nat.not_lt_zero s)
  | succ f ih =>
    intro s hs hn
    unfold scopeCtxChain
    dsimp only
    split
    next hc =>
      have hc : (st.scope s).ctxOf ≠ 0 := by simpa using hc
      rw [ctxUnder_iff st x wfc _ _ (Nat.lt_succ_self _)]
      refine ⟨.own hc, fun h => ?_⟩
      cases h with
      | own _ h => exact h
      | inherit h _ _ _ => exact absurd h hc
    next hc =>
      have hc : (st.scope s).ctxOf = 0 := by simpa using hc
      -- a scope created without a context inherits: only the `inherit` rule can apply
      have inv : ∀ {P : Prop}, ScopeUnder st x s → (∀ p, (st.scope s).parent = some p → p ≠ rootScope → ScopeUnder st x p → P) → P := by
        intro P h k
        cases h with
        | own h _ => exact absurd hc h
        | inherit _ hp hr h => exact k _ hp hr h
      split
      next p hp =>
        split
        next hr =>
          have hr : p = rootScope := by simpa using hr
          exact ⟨fun h => (by cases h), fun h => inv h fun q hq hqr _ => absurd (by rw [hp] at hq; cases hq; exact hr) hqr⟩
        next hr =>
          have hr : p ≠ rootScope := by simpa using hr
          have hps := hold s p hn hp
          rw [ih p (Nat.lt_of_lt_of_le hps (Nat.le_of_lt_succ hs)) (Nat.lt_trans hps hn)]
          exact ⟨.inherit hc hp hr, fun h => inv h fun q hq _ hu => by rw [hp] at hq; cases hq; exact hu⟩
      next hp => exact ⟨fun h => (by cases h), fun h => inv h fun q hq _ _ => by rw [hp] at hq; cases hq⟩

theorem closeAll_spec (beh : Beh) : ∀ (l : List Nat) (st : State), Tree st → (∀ s ∈ l, s < st.nscopes) →
    Tree (closeAll beh st l) ∧ (closeAll beh st l).nscopes = st.nscopes ∧ DispMono st (closeAll beh st l) ∧
    ∀ s ∈ l, ((closeAll beh st l).scope s).disposed = true := by
  intro l
  induction l with
  | nil => intro st t _; exact ⟨t, rfl, DispMono.refl st, fun s hs => by cases hs⟩
  | cons a rest ih =>
    intro st t hl
    obtain ⟨t1, n1⟩ := tree_close_any beh id (fun l => List.Perm.refl l) st t a (hl a (List.mem_cons_self ..))
    have m1 := (closeScope_dispMono beh id (closeFuel st)).1 st a
    obtain ⟨t2, n2, m2, d2⟩ := ih _ t1 (fun s hs => by rw [n1]; exact hl s (List.mem_cons_of_mem _ hs))
    refine ⟨t2, n2.trans n1, m1.trans m2, fun s hs => ?_⟩
    rcases List.mem_cons.1 hs with rfl | h
    · exact m2 s (closeScope_disposes beh id st st s)
    · exact d2 s h

/-- cancellation closes: after `cancel()` of context `x` (and the watchers it wakes), every scope other than the
root whose context is `x` or derived from it — through the context it was created with or, when it was created
without one, through the chain of scopes that created it — is closed; scopes closed before stay closed; the forest
invariant holds again -/
theorem cancel_closes_scopes_under (beh : Beh) (st : State) (t : Tree st) (wfc : CtxWF st) (x : Nat) :
    Tree (cancelCtx beh st x) ∧ DispMono st (cancelCtx beh st x) ∧
    ∀ s, s < st.nscopes → s ≠ rootScope → ScopeUnder st x s → ((cancelCtx beh st x).scope s).disposed = true := by
  -- marking `x` cancelled touches nothing the forest, the walks or `ScopeUnder` read
  let st0 : State := { st with ctxCancelled := fun c => c == x || st.ctxCancelled c }
  have t0 : Tree st0 := TreeEx.congr (a := st) ⟨rfl, rfl, fun _ => rfl, fun _ => rfl, fun _ => rfl, fun _ => rfl⟩ t
  obtain ⟨t1, _, m1, d1⟩ := closeAll_spec beh (scopesUnder st0 x) st0 t0
    (fun s hs => List.mem_range.1 (List.mem_filter.1 hs).1)
  refine ⟨t1, m1, fun s hs hr hu => d1 s (List.mem_filter.2 ⟨List.mem_range.2 hs, ?_⟩)⟩
  have hu0 : ScopeUnder st0 x s := by
    clear hs hr
    induction hu with
    | own h1 h2 => exact .own h1 (ctxDerives_congr (st := st) (st0 := st0) rfl h2)
    | inherit h1 h2 h3 _ ih => exact .inherit h1 h2 h3 ih
  have := (scopeCtxChain_iff st0 x wfc (fun s p hs hp => t0.older s p hs hp) (s + 1) s (Nat.lt_succ_self _) hs).2 hu0
  simp [this, hr]

end Godi.Container
