import GodiProofs.Container.Stable
import GodiProofs.Container.Close
/-!
# The disposal ledger (C10, globally)

`Ledger st`: every instance id sits in at most one disposal list, at most once; an instance that is
still listed has no `closed` event; no instance has more than one `closed` event; ids that are
listed or closed were handed out before (`< st.next`), so a freshly allocated id is new to the ledger.

`Owed st i` (listed, or closed exactly once) is monotone under every operation: once the container
has taken responsibility for an instance it either still holds it or has closed it exactly once.

Over `listOf`, which treats the scopes' lists and the provider's alike, there are three kinds of step: one the
ledger does not see (`Unseen`), a new id being listed (`Enters`), and ids being closed while lists are emptied
(`lstep_closed`). `track`, `setInstance`, `construct` and `Close` are made of these.
-/
namespace Godi.Container

def dispOf (st : State) (s : Nat) : List Inst := (st.scope s).disposables.getD []
def provD (st : State) : List Inst := st.provDisposables.getD []

def isClosedOf (i : Inst) : Event → Bool
  | .closed _ j _ => j == i
  | _ => false

def closedCount (log : List Event) (i : Inst) : Nat := log.countP (isClosedOf i)

def Tracked (st : State) (i : Inst) : Prop := (∃ s, i ∈ dispOf st s) ∨ i ∈ provD st

def Fresh (st : State) (i : Inst) : Prop := ¬ Tracked st i ∧ closedCount st.log i = 0

def Owed (st : State) (i : Inst) : Prop := Tracked st i ∨ closedCount st.log i = 1

structure Ledger (st : State) : Prop where
  nodupS : ∀ s, (dispOf st s).Nodup
  nodupP : (provD st).Nodup
  disjS : ∀ s s' i, i ∈ dispOf st s → i ∈ dispOf st s' → s = s'
  disjP : ∀ s i, i ∈ dispOf st s → i ∉ provD st
  pending : ∀ i, Tracked st i → closedCount st.log i = 0
  once : ∀ i, closedCount st.log i ≤ 1
  -- makes an id that `alloc` hands out new to the ledger (`Ledger.fresh_of_ge`)
  known : ∀ i, (Tracked st i ∨ 0 < closedCount st.log i) → i < st.next
  -- slots beyond the scopes created so far are empty: `allocScope` is then a step the ledger does not see, and
  -- `closeProvider`, which walks the scopes below `nscopes`, leaves nothing listed anywhere
  pristine : ∀ s, st.nscopes ≤ s → dispOf st s = []

/-- one step of the ledger: the invariant holds afterwards and nothing owed is forgotten -/
structure LStep (st st' : State) : Prop where
  ledger : Ledger st'
  mono : ∀ i, Owed st i → Owed st' i

theorem LStep.refl {st : State} (h : Ledger st) : LStep st st := ⟨h, fun _ h => h⟩
theorem LStep.trans {a b c : State} (h1 : LStep a b) (h2 : LStep b c) : LStep a c :=
  ⟨h2.ledger, fun i h => h2.mono i (h1.mono i h)⟩

theorem Ledger.fresh_of_ge {st : State} (L : Ledger st) {i : Inst} (h : st.next ≤ i) : Fresh st i :=
  have new := fun hk => Nat.lt_irrefl _ (Nat.lt_of_lt_of_le (L.known i hk) h)
  ⟨fun ht => new (.inl ht), Nat.eq_zero_of_not_pos fun hp => new (.inr hp)⟩

@[simp] theorem closedCount_nil (i : Inst) : closedCount [] i = 0 := rfl
theorem closedCount_append (a b : List Event) (i : Inst) :
    closedCount (a ++ b) i = closedCount a i + closedCount b i := by simp [closedCount, List.countP_append]
theorem closedCount_ctor (d c inv s : Nat) (a : List Val) (o : List Inst) (i : Inst) :
    closedCount [.ctor d c inv s a o] i = 0 := by simp [closedCount, isClosedOf]
theorem closedCount_ctorFail (d c inv s : Nat) (how : Outcome) (i : Inst) :
    closedCount [.ctorFail d c inv s how] i = 0 := by simp [closedCount, isClosedOf]
theorem closedCount_closed (o j : Nat) (ok : Bool) (i : Inst) :
    closedCount [.closed o j ok] i = if j = i then 1 else 0 := by
  by_cases h : j = i <;> simp [closedCount, isClosedOf, h]

/-! ### owners -/

def listOf (st : State) : Option Nat → List Inst
  | some s => dispOf st s
  | none => provD st

theorem tracked_iff {st : State} {i : Inst} : Tracked st i ↔ ∃ o, i ∈ listOf st o :=
  ⟨fun h => h.elim (fun ⟨s, hs⟩ => ⟨some s, hs⟩) (fun hp => ⟨none, hp⟩),
   fun ⟨o, ho⟩ => match o, ho with
     | some s, hs => .inl ⟨s, hs⟩
     | none, hp => .inr hp⟩

theorem Ledger.nodup {st : State} (L : Ledger st) : ∀ o, (listOf st o).Nodup
  | some s => L.nodupS s
  | none => L.nodupP

theorem Ledger.owner {st : State} (L : Ledger st) {i : Inst} : ∀ {o o'}, i ∈ listOf st o → i ∈ listOf st o' → o = o'
  | some s, some s', h, h' => congrArg some (L.disjS s s' i h h')
  | some s, none, h, h' => absurd h' (L.disjP s i h)
  | none, some s, h, h' => absurd h (L.disjP s i h')
  | none, none, _, _ => rfl

theorem Ledger.of_lists {st : State} (nodup : ∀ o, (listOf st o).Nodup)
    (owner : ∀ i o o', i ∈ listOf st o → i ∈ listOf st o' → o = o')
    (pending : ∀ i, Tracked st i → closedCount st.log i = 0) (once : ∀ i, closedCount st.log i ≤ 1)
    (known : ∀ i, (Tracked st i ∨ 0 < closedCount st.log i) → i < st.next)
    (pristine : ∀ s, st.nscopes ≤ s → dispOf st s = []) : Ledger st :=
  ⟨fun s => nodup (some s), nodup none, fun _ _ i h h' => Option.some.inj (owner i _ _ h h'),
   fun s i h h' => (nomatch owner i (some s) none h h'), pending, once, known, pristine⟩

/-- `l` holds what was on the lists that are emptied. With no list emptied and `l = []`: a step the ledger does
not see. -/
theorem lstep_closed {st st' : State} (L : Ledger st) (l : List Inst)
    (hL : ∀ o, listOf st' o = listOf st o ∨ (listOf st' o = [] ∧ ∀ j ∈ listOf st o, j ∈ l))
    (hl : ∀ j ∈ l, closedCount st.log j = 0 ∧ j < st.next ∧ ¬ Tracked st' j)
    (hc : ∀ j, closedCount st'.log j = closedCount st.log j + (if j ∈ l then 1 else 0))
    (hn : st.next ≤ st'.next) (hs : st.nscopes ≤ st'.nscopes) : LStep st st' := by
  have sub : ∀ o j, j ∈ listOf st' o → j ∈ listOf st o := by
    intro o j hj
    rcases hL o with h | ⟨h, _⟩
    · rw [h] at hj; exact hj
    · rw [h] at hj; cases hj
  have subT : ∀ j, Tracked st' j → Tracked st j := fun j h =>
    let ⟨o, ho⟩ := tracked_iff.1 h
    tracked_iff.2 ⟨o, sub o j ho⟩
  refine ⟨Ledger.of_lists ?_ ?_ ?_ ?_ ?_ ?_, ?_⟩
  · intro o
    rcases hL o with h | ⟨h, _⟩
    · rw [h]; exact L.nodup o
    · rw [h]; exact List.nodup_nil
  · intro j o o' h h'
    exact L.owner (sub o j h) (sub o' j h')
  · intro j ht
    rw [hc, if_neg (fun hjl => (hl j hjl).2.2 ht), L.pending j (subT j ht)]
  · intro j
    rw [hc]
    by_cases hjl : j ∈ l
    · rw [if_pos hjl, (hl j hjl).1]; exact Nat.le_refl _
    · rw [if_neg hjl]; exact L.once j
  · intro j hj
    refine Nat.lt_of_lt_of_le ?_ hn
    by_cases hjl : j ∈ l
    · exact (hl j hjl).2.1
    · rw [hc, if_neg hjl] at hj
      exact L.known j (hj.imp_left (subT j))
  · intro x hx
    rcases hL (some x) with h | ⟨h, _⟩
    · exact h.trans (L.pristine x (Nat.le_trans hs hx))
    · exact h
  · intro j hj
    unfold Owed
    rw [hc]
    by_cases hjl : j ∈ l
    · rw [if_pos hjl, (hl j hjl).1]; exact .inr rfl
    · rw [if_neg hjl]
      refine hj.imp_left fun ht => ?_
      obtain ⟨o, ho⟩ := tracked_iff.1 ht
      rcases hL o with h | ⟨_, h⟩
      · exact tracked_iff.2 ⟨o, h ▸ ho⟩
      · exact absurd (h j ho) hjl

/-- the same lists and the same counts; the counters may rise -/
structure Unseen (st st' : State) : Prop where
  lists : ∀ o, listOf st' o = listOf st o
  counts : ∀ i, closedCount st'.log i = closedCount st.log i
  next : st.next ≤ st'.next
  nscopes : st.nscopes ≤ st'.nscopes

theorem Unseen.refl (st : State) : Unseen st st := ⟨fun _ => rfl, fun _ => rfl, Nat.le_refl _, Nat.le_refl _⟩

theorem Unseen.trans {a b c : State} (h1 : Unseen a b) (h2 : Unseen b c) : Unseen a c :=
  ⟨fun o => (h2.lists o).trans (h1.lists o), fun i => (h2.counts i).trans (h1.counts i),
   Nat.le_trans h1.next h2.next, Nat.le_trans h1.nscopes h2.nscopes⟩

theorem Unseen.of_eq {st st' : State} (hd : ∀ s, (st'.scope s).disposables = (st.scope s).disposables)
    (hp : st'.provDisposables = st.provDisposables) (hl : st'.log = st.log) (hn : st.next ≤ st'.next)
    (hs : st.nscopes ≤ st'.nscopes) : Unseen st st' :=
  ⟨fun o => match o with
    | some s => congrArg (·.getD []) (hd s)
    | none => congrArg (·.getD []) hp,
   fun _ => by rw [hl], hn, hs⟩

theorem Unseen.tracked {st st' : State} (u : Unseen st st') {i : Inst} : Tracked st' i ↔ Tracked st i := by
  rw [tracked_iff, tracked_iff]
  simp only [u.lists]

theorem Unseen.fresh {st st' : State} (u : Unseen st st') {i : Inst} : Fresh st' i ↔ Fresh st i := by
  unfold Fresh
  rw [u.tracked, u.counts]

theorem Unseen.lstep {st st' : State} (u : Unseen st st') (L : Ledger st) : LStep st st' :=
  lstep_closed L [] (fun o => .inl (u.lists o)) nofun (fun j => by simp [u.counts]) u.next u.nscopes

theorem LStep.unseen {a b c : State} (h : LStep a b) (u : Unseen b c) : LStep a c := h.trans (u.lstep h.ledger)

theorem unseen_updScope (st : State) (s : Nat) (f : ScopeSt → ScopeSt)
    (h : (f (st.scope s)).disposables = (st.scope s).disposables) : Unseen st (updScope st s f) := by
  refine .of_eq (fun x => ?_) rfl rfl (Nat.le_refl _) (Nat.le_refl _)
  by_cases hx : x = s
  · rw [hx, updScope_same]; exact h
  · rw [updScope_other st s x f hx]

theorem unseen_putInstance (st : State) (s : Nat) (k : Ident) (v : Val) : Unseen st (putInstance st s k v) :=
  unseen_updScope st s _ rfl

theorem unseen_bumpInv (st : State) (c : Nat) : Unseen st (bumpInv st c) :=
  .of_eq (fun _ => rfl) rfl rfl (Nat.le_refl _) (Nat.le_refl _)

theorem unseen_alloc (st : State) (k c n : Nat) : Unseen st (alloc st k c n) :=
  .of_eq (fun _ => rfl) rfl rfl (Nat.le_add_right _ _) (Nat.le_refl _)

theorem unseen_logEv (st : State) {e : Event} (he : ∀ i, closedCount [e] i = 0) : Unseen st (logEv st e) := by
  refine ⟨fun o => by cases o <;> rfl, fun i => ?_, Nat.le_refl _, Nat.le_refl _⟩
  show closedCount (st.log ++ [e]) i = _
  rw [closedCount_append, he]
  rfl

theorem unseen_allocLog (st : State) (k c n d s : Nat) (args : List Val) (outs : List Inst) :
    Unseen st (logEv (alloc st k c n) (.ctor d c n s args outs)) :=
  (unseen_alloc st k c n).trans (unseen_logEv _ (closedCount_ctor _ _ _ _ _ _))

theorem unseen_storeSingleton (st : State) (k : Ident) (v : Val) : Unseen st (storeSingleton st k v) :=
  .of_eq (fun _ => rfl) rfl rfl (Nat.le_refl _) (Nat.le_refl _)

theorem unseen_shareInstance (st : State) (s : Nat) (d : Desc) (k : Ident) (v : Val) :
    Unseen st (shareInstance st s d k v) := by
  unfold shareInstance
  split
  · exact unseen_storeSingleton st k v
  · exact unseen_putInstance st s k v
  · exact .refl st

theorem unseen_shareAll (s self : Nat) (v : Val) (sibs : List Desc) (st : State) : Unseen st (shareAll st s self sibs v) :=
  shareAll_keeps (P := Unseen st) self sibs st (fun _ d _ h => h.trans (unseen_shareInstance _ s d d.ident v)) (.refl st)

theorem unseen_markAbsent (st : State) (s : Nat) (sibs0 : List Desc) (nil? : Option Nat) :
    Unseen st (markAbsent st s sibs0 nil?) :=
  markAbsent_keeps (P := Unseen st) sibs0 nil? (fun d _ h => h.trans (unseen_shareInstance _ s d d.ident .absent)) (.refl st)

theorem track_other (st : State) (s : Nat) (v : Val) (disp : Bool) (hv : ∀ i, v ≠ .inst i) :
    (track st s v disp).1 = st := by
  unfold track
  cases v with
  | inst i => exact absurd rfl (hv i)
  | _ => simp only []; split <;> rfl

theorem unseen_setInstance_other (st : State) (s : Nat) (d : Desc) (k : Ident) (v : Val) (hv : ∀ i, v ≠ .inst i) :
    Unseen st (setInstance st s d k v).1 := by
  unfold setInstance
  split
  · cases v with
    | inst i => exact absurd rfl (hv i)
    | _ => exact unseen_storeSingleton st k _
  · rw [track_other _ s v d.disp hv]; exact unseen_putInstance st s k v
  · rw [track_other _ s v d.disp hv]; exact .refl st

/-- `i` is put at the end of the disposal list of owner `o`, and nothing else the ledger looks at changes -/
structure Enters (i : Inst) (o : Option Nat) (st st' : State) : Prop where
  lists : ∀ o', listOf st' o' = if o' = o then listOf st o' ++ [i] else listOf st o'
  log : st'.log = st.log
  next : st'.next = st.next
  nscopes : st'.nscopes = st.nscopes

theorem enters_scope (st : State) (s : Nat) (i : Inst) :
    Enters i (some s) st (updScope st s (fun sc => { sc with disposables := some ((sc.disposables.getD []) ++ [i]) })) := by
  refine ⟨fun o' => ?_, rfl, rfl, rfl⟩
  cases o' with
  | none => rfl
  | some x =>
    by_cases hx : x = s
    · subst hx; simp [listOf, dispOf, updScope]
    · simp [listOf, dispOf, updScope, hx]

theorem enters_provider (st : State) (i : Inst) :
    Enters i none st { st with provDisposables := some ((st.provDisposables.getD []) ++ [i]) } := by
  refine ⟨fun o' => ?_, rfl, rfl, rfl⟩
  cases o' with
  | none => simp [listOf, provD]
  | some x => rfl

namespace Enters
variable {i : Inst} {o : Option Nat} {st st' : State}

theorem mem (e : Enters i o st st') {o' : Option Nat} {j : Inst} : j ∈ listOf st' o' ↔ j ∈ listOf st o' ∨ (o' = o ∧ j = i) := by
  rw [e.lists]
  split
  next h => simp [h]
  next h => simp [h]

theorem tracked (e : Enters i o st st') {j : Inst} : Tracked st' j ↔ Tracked st j ∨ j = i := by
  rw [tracked_iff, tracked_iff]
  constructor
  · rintro ⟨o', h⟩
    exact (e.mem.1 h).imp (fun h => ⟨o', h⟩) (fun h => h.2)
  · rintro (⟨o', h⟩ | h)
    · exact ⟨o', e.mem.2 (.inl h)⟩
    · exact ⟨o, e.mem.2 (.inr ⟨rfl, h⟩)⟩

theorem lstep (e : Enters i o st st') (L : Ledger st) (hf : Fresh st i) (hi : i < st.next) (ho : ∀ s, o = some s → s < st.nscopes) :
    LStep st st' ∧ Owed st' i := by
  have hnot : ∀ o', i ∉ listOf st o' := fun o' h => hf.1 (tracked_iff.2 ⟨o', h⟩)
  refine ⟨⟨Ledger.of_lists ?_ ?_ ?_ ?_ ?_ ?_, ?_⟩, .inl (e.tracked.2 (.inr rfl))⟩
  · intro o'
    rw [e.lists]
    split
    · refine List.nodup_append.2 ⟨L.nodup o', List.pairwise_singleton _ i, fun a ha b hb => ?_⟩
      rw [List.mem_singleton.1 hb]
      rintro rfl
      exact hnot o' ha
    · exact L.nodup o'
  · intro j o1 o2 h1 h2
    rcases e.mem.1 h1 with a1 | ⟨e1, rfl⟩
    · rcases e.mem.1 h2 with a2 | ⟨_, rfl⟩
      · exact L.owner a1 a2
      · exact absurd a1 (hnot o1)
    · rcases e.mem.1 h2 with a2 | ⟨e2, _⟩
      · exact absurd a2 (hnot o2)
      · rw [e1, e2]
  · intro j hj
    rw [e.log]
    rcases e.tracked.1 hj with h | rfl
    · exact L.pending j h
    · exact hf.2
  · intro j
    rw [e.log]
    exact L.once j
  · intro j hj
    rw [e.next]
    rw [e.log] at hj
    rcases hj with hj | hj
    · rcases e.tracked.1 hj with h | rfl
      · exact L.known j (.inl h)
      · exact hi
    · exact L.known j (.inr hj)
  · intro x hx
    rw [e.nscopes] at hx
    have := e.lists (some x)
    rw [if_neg (fun h => Nat.lt_irrefl _ (Nat.lt_of_lt_of_le (ho x h.symm) hx))] at this
    exact this.trans (L.pristine x hx)
  · intro j hj
    rcases hj with h | h
    · exact .inl (e.tracked.2 (.inl h))
    · exact .inr (e.log ▸ h)

end Enters

/-! ### `track` -/

/-- a new instance enters the ledger: appended to the scope's list, or — when the scope is already
closed — closed on the spot -/
theorem track_lstep (st : State) (L : Ledger st) (s : Nat) (i : Inst) (disp : Bool) (hs : s < st.nscopes)
    (hf : Fresh st i) (hi : i < st.next) :
    LStep st (track st s (.inst i) disp).1 ∧ (disp = true → Owed (track st s (.inst i) disp).1 i) := by
  unfold track
  dsimp only
  split
  · split
    · have hc : ∀ j, closedCount (logClosed st s i true).log j = closedCount st.log j + (if j ∈ [i] then 1 else 0) := by
        intro j
        show closedCount (st.log ++ [_]) j = _
        rw [closedCount_append, closedCount_closed]
        simp only [List.mem_singleton, eq_comm]
      refine ⟨lstep_closed L [i] (fun _ => .inl rfl) (fun j hj => ?_) hc (Nat.le_refl _) (Nat.le_refl _), fun _ => .inr ?_⟩
      · rw [List.mem_singleton.1 hj]
        exact ⟨hf.2, hi, hf.1⟩
      · rw [hc, hf.2, if_pos (List.mem_singleton.2 rfl)]
    next hd => exact ⟨LStep.refl L, fun h => absurd h hd⟩
  · split
    · have h := (enters_scope st s i).lstep L hf hi (fun _ h => Option.some.inj h ▸ hs)
      exact ⟨h.1, fun _ => h.2⟩
    next hd => exact ⟨LStep.refl L, fun h => absurd h hd⟩

/-- the ledger's data about every instance outside `S` is the same in both states -/
def SameOff (S : Inst → Prop) (st st' : State) : Prop :=
  ∀ j, ¬ S j → (Tracked st' j ↔ Tracked st j) ∧ closedCount st'.log j = closedCount st.log j

/-- what a step may do to the other instances: nothing -/
def Untouched (st st' : State) (i : Inst) : Prop :=
  ∀ j, j ≠ i → (Tracked st' j ↔ Tracked st j) ∧ closedCount st'.log j = closedCount st.log j

/-- all instances are left alone -/
def AllSame (st st' : State) : Prop :=
  ∀ j, (Tracked st' j ↔ Tracked st j) ∧ closedCount st'.log j = closedCount st.log j

theorem untouched_of_allSame {st st' : State} (h : AllSame st st') (i : Inst) : Untouched st st' i := fun j _ => h j

theorem SameOff.refl (S : Inst → Prop) (st : State) : SameOff S st st := fun _ _ => ⟨Iff.rfl, rfl⟩

theorem SameOff.trans {S : Inst → Prop} {a b c : State} (h1 : SameOff S a b) (h2 : SameOff S b c) : SameOff S a c :=
  fun j hj => ⟨(h2 j hj).1.trans (h1 j hj).1, (h2 j hj).2.trans (h1 j hj).2⟩

theorem SameOff.mono {S S' : Inst → Prop} {st st' : State} (h : SameOff S st st') (hS : ∀ j, S j → S' j) :
    SameOff S' st st' := fun j hj => h j (fun hs => hj (hS j hs))

theorem SameOff.fresh {S : Inst → Prop} {st st' : State} {j : Inst} (h : SameOff S st st') (hj : ¬ S j) :
    Fresh st' j ↔ Fresh st j := by
  obtain ⟨a, b⟩ := h j hj
  unfold Fresh; rw [a, b]

theorem Unseen.sameOff {st st' : State} (u : Unseen st st') (S : Inst → Prop) : SameOff S st st' :=
  fun j _ => ⟨u.tracked, u.counts j⟩

theorem Enters.sameOff {i : Inst} {o : Option Nat} {st st' : State} (e : Enters i o st st') : SameOff (· = i) st st' :=
  fun _ hj => ⟨e.tracked.trans (or_iff_left hj), by rw [e.log]⟩

/-- `track` touches the tracked instance only (no hypothesis about the ledger) -/
theorem track_sameOff (st : State) (s : Nat) (i : Inst) (disp : Bool) :
    SameOff (· = i) st (track st s (.inst i) disp).1 := by
  unfold track
  dsimp only
  split
  · split
    · intro j hj
      refine ⟨Iff.rfl, ?_⟩
      show closedCount (st.log ++ [_]) j = _
      rw [closedCount_append, closedCount_closed, if_neg (fun e => hj e.symm)]; rfl
    · exact SameOff.refl _ st
  · split
    · exact (enters_scope st s i).sameOff
    · exact SameOff.refl _ st

/-- `setInstance` of an instance value, any lifetime: only that instance is touched -/
theorem setInstance_sameOff (st : State) (s : Nat) (d : Desc) (k : Ident) (i : Inst) :
    SameOff (· = i) st (setInstance st s d k (.inst i)).1 := by
  unfold setInstance
  split
  · dsimp only
    split
    · exact (enters_provider (storeSingleton st k (.inst i)) i).sameOff
    · exact (unseen_storeSingleton st k _).sameOff _
  · exact ((unseen_putInstance st s k _).sameOff _).trans (track_sameOff _ s i d.disp)
  · exact track_sameOff st s i d.disp

/-- `storeOuts` touches its outputs only -/
theorem storeOuts_sameOff (s : Nat) (sibs : List Desc) (outs : List Inst) (st : State) :
    SameOff (· ∈ outs) st (storeOuts st s sibs outs).1 :=
  storeOuts_keeps (P := SameOff (· ∈ outs) st) sibs outs st
    (fun _ d _ o ho h => h.trans ((setInstance_sameOff _ s d d.ident o).mono (fun _ e => e ▸ ho))) (SameOff.refl _ st)

/-- materialising a registered instance value touches that value only -/
theorem provideValue_sameOff (st : State) (s : Nat) (d : Desc) (v : Inst) :
    SameOff (· = v) st (provideValue st s d v).1 := by
  unfold provideValue
  dsimp only
  have h1 := setInstance_sameOff st s d d.ident v
  split
  · exact h1
  · exact h1.trans ((unseen_shareAll s d.id _ _ _).sameOff _)

/-- a fresh instance enters the ledger through `setInstance`: a singleton goes to the provider's list, anything
else to the list of the (existing) scope `s` — or, that scope being closed already, is closed on the spot -/
theorem setInstance_lstep (st : State) (L : Ledger st) (s : Nat) (d : Desc) (k : Ident) (i : Inst)
    (hs : d.life ≠ .singleton → s < st.nscopes) (hf : Fresh st i) (hi : i < st.next) :
    LStep st (setInstance st s d k (.inst i)).1 ∧ (d.disp = true → Owed (setInstance st s d k (.inst i)).1 i) := by
  unfold setInstance
  split
  · have h1 := (unseen_storeSingleton st k (.inst i)).lstep L
    dsimp only
    split
    · obtain ⟨h2, o2⟩ := (enters_provider (storeSingleton st k (.inst i)) i).lstep h1.ledger hf hi nofun
      exact ⟨h1.trans h2, fun _ => o2⟩
    next hd => exact ⟨h1, fun h => absurd h hd⟩
  next hl =>
    have u1 := unseen_putInstance st s k (.inst i)
    obtain ⟨h2, o2⟩ := track_lstep (putInstance st s k (.inst i)) (u1.lstep L).ledger s i d.disp (hs (by rw [hl]; simp))
      (u1.fresh.2 hf) hi
    exact ⟨(u1.lstep L).trans h2, o2⟩
  next hl => exact track_lstep st L s i d.disp (hs (by rw [hl]; simp)) hf hi

@[simp] theorem setInstance_nscopes (st : State) (s : Nat) (d : Desc) (k : Ident) (v : Val) :
    (setInstance st s d k v).1.nscopes = st.nscopes :=
  StoreKeeps.setInstance (K := (·.nscopes = st.nscopes))
    ⟨fun _ _ h => h, fun _ _ h => h, fun _ _ _ h => h, fun _ _ h => h, fun _ h => h⟩ s d k v rfl

theorem storeOuts_lstep (s : Nat) : ∀ (sibs : List Desc) (outs : List Inst) (st : State), Ledger st →
    (∀ d ∈ sibs, d.life ≠ .singleton → s < st.nscopes) → outs.Nodup → (∀ o ∈ outs, Fresh st o ∧ o < st.next) →
    LStep st (storeOuts st s sibs outs).1 ∧
    (∀ p ∈ sibs.zip outs, p.1.disp = true → Owed (storeOuts st s sibs outs).1 p.2) := by
  intro sibs
  induction sibs with
  | nil => intro outs st L _ _ _; unfold storeOuts; exact ⟨LStep.refl L, by simp⟩
  | cons d ds ih =>
    intro outs st L hs hnd hfresh
    cases outs with
    | nil => unfold storeOuts; exact ⟨LStep.refl L, by simp⟩
    | cons o os =>
      unfold storeOuts
      dsimp only
      obtain ⟨h1, o1⟩ := setInstance_lstep st L s d d.ident o (hs d (by simp)) (hfresh o (by simp)).1 (hfresh o (by simp)).2
      have u1 := setInstance_sameOff st s d d.ident o
      have hnd' := List.nodup_cons.1 hnd
      obtain ⟨h2, o2⟩ := ih os (setInstance st s d d.ident (.inst o)).1 h1.ledger
        (fun x hx hl => by rw [setInstance_nscopes]; exact hs x (List.mem_cons_of_mem _ hx) hl) hnd'.2
        (fun o' ho' => ⟨(u1.fresh (fun e => hnd'.1 (e ▸ ho'))).2 (hfresh o' (List.mem_cons_of_mem _ ho')).1,
          by rw [setInstance_next_eq]; exact (hfresh o' (List.mem_cons_of_mem _ ho')).2⟩)
      refine ⟨h1.trans h2, ?_⟩
      intro p hp hd
      simp only [List.zip_cons_cons, List.mem_cons] at hp
      rcases hp with rfl | hp
      · exact h2.mono _ (o1 hd)
      · exact o2 p hp hd

/-! ### resolution keeps the ledger -/

theorem provideValue_lstep (st : State) (L : Ledger st) (s : Nat) (d : Desc) (v : Inst)
    (hs : d.life ≠ .singleton → s < st.nscopes) (hf : Fresh st v) (hv : v < st.next) :
    LStep st (provideValue st s d v).1 := by
  obtain ⟨h1, _⟩ := setInstance_lstep st L s d d.ident v hs hf hv
  unfold provideValue
  dsimp only
  split
  · exact h1
  · exact h1.unseen (unseen_shareAll s d.id _ _ _)

theorem construct_lstep (beh : Beh) {st : State} (wf : WF st.descs) (L : Ledger st) {s : Nat} {d : Desc}
    (hd : d ∈ st.descs) (hs : d.life ≠ .singleton → s < st.nscopes) (args : List Val) :
    LStep st (construct beh st s d args).1 := by
  refine construct_cases beh st s d args (B := fun st2 => LStep st st2 ∧ st2.nscopes = st.nscopes) (P := (LStep st ·))
    ⟨(unseen_bumpInv st d.ctor).lstep L, rfl⟩ ?_ ?_ ?_ ?_
  · intro st2 n how h2
    exact h2.1.unseen (unseen_logEv _ (closedCount_ctorFail _ _ _ _ _))
  · intro st2 n h2
    exact (h2.1.unseen (unseen_logEv _ (closedCount_ctor _ _ _ _ _ _))).unseen (unseen_setInstance_other _ s d d.ident .unit nofun)
  · intro st2 n sibs0 sibs' nil? h2 h0 hsub
    -- ids from the counter on are new to the ledger, also once they are allocated and their event is logged
    have u3 := unseen_allocLog st2 sibs'.length d.ctor n d.id s args (allocOuts st2.next sibs'.length)
    obtain ⟨h4, _⟩ := storeOuts_lstep s sibs' (allocOuts st2.next sibs'.length) _ (u3.lstep h2.1.ledger).ledger
      (fun sd hsd hl => h2.2 ▸ hs (by
        rcases h0 sd (hsub sd hsd) with rfl | hm
        · exact hl
        · exact sibs_life wf hd sd hm ▸ hl))
      (allocOuts_nodup _ _)
      (fun o ho => ⟨u3.fresh.2 (h2.1.ledger.fresh_of_ge (mem_allocOuts ho).1), (mem_allocOuts ho).2⟩)
    exact ((h2.1.unseen u3).trans h4).unseen (unseen_markAbsent _ s sibs0 nil?)
  · intro st2 n h2
    have u3 := unseen_allocLog st2 1 d.ctor n d.id s args [st2.next]
    exact (h2.1.unseen u3).trans (provideValue_lstep _ (u3.lstep h2.1.ledger).ledger s d st2.next (fun hl => h2.2 ▸ hs hl)
      (u3.fresh.2 (h2.1.ledger.fresh_of_ge (Nat.le_refl _))) (Nat.lt_succ_self _))

/-- the ledger as a rule of resolution in an existing scope `s`: only non-singleton registrations are
constructed, and instance values are singletons -/
def ledgerRule (beh : Beh) {descs : List Desc} (wf : WF descs) (is : InstSingleton descs) (s : Nat) : Rule beh descs s where
  I := fun st => Ledger st ∧ s < st.nscopes
  R := fun a b => LStep a b ∧ a.nscopes ≤ b.nscopes
  C := fun d => d ∈ descs ∧ d.life ≠ .singleton
  refl := fun h => ⟨LStep.refl h.1, Nat.le_refl _⟩
  trans := fun h1 h2 => ⟨h1.1.trans h2.1, Nat.le_trans h1.2 h2.2⟩
  inv := fun h r => ⟨r.1.ledger, Nat.lt_of_lt_of_le h.2 r.2⟩
  covers := fun hm hl => ⟨hm, hl⟩
  value := fun _ _ hc hk => absurd (is _ hc.1 _ hk) hc.2
  construct := fun hd h hc _ _ => ⟨construct_lstep beh (hd ▸ wf) h.1 (hd ▸ hc.1) (fun _ => h.2) _,
    Nat.le_of_eq (construct_ext beh (hd ▸ wf) s (hd ▸ hc.1) hc.2 _).nscopes.symm⟩

/-! ### draining a disposal list -/

theorem closedCount_map_closedEv (beh : Beh) (st : State) (owner : Nat) (l : List Inst) (j : Inst) :
    closedCount (l.map (closedEv beh st owner)) j = l.count j := by
  unfold closedCount List.count
  rw [List.countP_map]
  rfl

theorem listOf_log (st : State) (log : List Event) : ∀ o, listOf { st with log := log } o = listOf st o
  | some _ => rfl
  | none => rfl

theorem drain_lstep (beh : Beh) {st st' : State} (L : Ledger st) (o : Option Nat) (owner : Nat)
    (hl : ∀ o', listOf st' o' = if o' = o then [] else listOf st o') (hlog : st'.log = st.log)
    (hn : st'.next = st.next) (hs : st'.nscopes = st.nscopes) :
    LStep st (closeLoop beh owner st' (listOf st o).reverse).1 := by
  rw [closeLoop_eq]
  refine lstep_closed L (listOf st o) (fun o' => ?_) (fun j hj => ⟨L.pending j (tracked_iff.2 ⟨o, hj⟩),
    L.known j (.inl (tracked_iff.2 ⟨o, hj⟩)), fun ht => ?_⟩) (fun j => ?_) (Nat.le_of_eq hn.symm) (Nat.le_of_eq hs.symm)
  · rw [listOf_log, hl]
    split
    next h => exact .inr ⟨rfl, fun j hj => h ▸ hj⟩
    · exact .inl rfl
  · obtain ⟨o', ho'⟩ := tracked_iff.1 ht
    rw [listOf_log, hl] at ho'
    split at ho'
    · cases ho'
    next h => exact h (L.owner ho' hj)
  · show closedCount (st'.log ++ _) j = _
    rw [closedCount_append, closedCount_map_closedEv, List.count_reverse, (L.nodup o).count, hlog]

theorem drain_scope_lstep (beh : Beh) (st : State) (L : Ledger st) (s : Nat) :
    LStep st (closeLoop beh s (takeDisposables st s) (dispOf st s).reverse).1 := by
  refine drain_lstep beh L (some s) s (fun o' => ?_) rfl rfl rfl
  cases o' with
  | none => rfl
  | some x =>
    by_cases hx : x = s
    · subst hx; simp [listOf, dispOf, takeDisposables, updScope]
    · simp [listOf, dispOf, takeDisposables, updScope, hx]

/-- `provider.Close` drains the singleton list -/
theorem drain_provider_lstep (beh : Beh) (st : State) (L : Ledger st) :
    LStep st (closeLoop beh providerOwner { st with provDisposables := none } (provD st).reverse).1 := by
  refine drain_lstep beh L none providerOwner (fun o' => ?_) rfl rfl rfl
  cases o' <;> rfl

/-! ### `Close` -/

theorem unseen_detach (st : State) (s : Nat) : Unseen st (detach st s) := by
  unfold detach
  have h1 : Unseen st (match (st.scope s).parent with
      | some p => updScope st p (fun sc => { sc with children := sc.children.map (fun (l : List Nat) => List.erase l s) })
      | none => st) := by
    split
    · exact unseen_updScope st _ _ rfl
    · exact .refl st
  exact h1.trans (.of_eq (fun _ => rfl) rfl rfl (Nat.le_refl _) (Nat.le_refl _))

def ledgerClose (beh : Beh) : CloseRule beh where
  I := Ledger
  R := LStep
  refl := LStep.refl
  trans := LStep.trans
  inv := fun _ r => r.ledger
  enter := fun s L _ => ((unseen_updScope _ s _ rfl).trans (unseen_updScope _ s _ rfl)).lstep L
  drain := fun s L _ => drain_scope_lstep beh _ L s
  leave := fun s L _ => ((unseen_detach _ s).trans (unseen_updScope _ s _ rfl)).lstep L

theorem ledger_close (beh : Beh) (order : List Nat → List Nat) (fuel : Nat) :
    (∀ st s, Ledger st → LStep st (closeScope beh order fuel st s).1) ∧
    (∀ st l, Ledger st → LStep st (closeChildren beh order fuel st l).1) :=
  ⟨fun st s L => (((ledgerClose beh).close order fuel).1 st s L).1,
   fun st l L => (((ledgerClose beh).close order fuel).2 st l L).1⟩

/-! ### scope creation and whole histories -/

/-- a new scope starts with the empty list that its slot had before -/
theorem unseen_allocScope (st : State) (L : Ledger st) (parent : Option Nat) (ctx : Nat) :
    Unseen st (allocScope st parent ctx) := by
  refine ⟨fun o => ?_, fun _ => rfl, Nat.le_refl _, Nat.le_succ _⟩
  cases o with
  | none => rfl
  | some x =>
    show dispOf (allocScope st parent ctx) x = dispOf st x
    by_cases hx : x = st.nscopes
    · rw [hx, L.pristine st.nscopes (Nat.le_refl _)]
      simp [dispOf, allocScope]
    · simp [dispOf, allocScope, hx]

/-- the ledger as a law of histories; resolution asks for an existing scope, which `validOpL` grants -/
def ledgerLaw (beh : Beh) {descs : List Desc} (wf : WF descs) (is : InstSingleton descs) : Law beh descs where
  I := Ledger
  R := fun a b => LStep a b ∧ a.nscopes ≤ b.nscopes
  G := fun st s => s < st.nscopes
  N := (·.life = .scoped)
  refl := fun L => ⟨LStep.refl L, Nat.le_refl _⟩
  trans := fun h1 h2 => ⟨h1.1.trans h2.1, Nat.le_trans h1.2 h2.2⟩
  inv := fun _ r => r.1.ledger
  gStable := fun r hs => Nat.lt_of_lt_of_le hs r.2
  resolve := fun fuel s ty key hd L hs => (ledgerRule beh wf is s).resolve_step fuel _ ty key hd ⟨L, hs⟩
  getGroup := fun fuel s ty grp hd L hs => (ledgerRule beh wf is s).getGroup_step fuel _ ty grp hd ⟨L, hs⟩
  initializer := fun fuel s d hd L hs hm hl =>
    (ledgerRule beh wf is s).createInstance_step fuel _ d hd ⟨L, hs⟩ ⟨hm, by rw [hl]; simp⟩
  close := fun order fuel s _ L =>
    ⟨(ledger_close beh order fuel).1 _ s L, Nat.le_of_eq (closeScope_nscopes beh order fuel _ s).symm⟩
  allocScope := fun parent ctx _ L => ⟨⟨(unseen_allocScope _ L parent ctx).lstep L, Nat.le_succ _⟩, Nat.lt_succ_self _⟩
  addProvScope := fun _ _ L =>
    ⟨Unseen.lstep (.of_eq (fun _ => rfl) rfl rfl (Nat.le_refl _) (Nat.le_refl _)) L, Nat.le_refl _⟩
  addChild := fun p _ _ L => ⟨(unseen_updScope _ p _ rfl).lstep L, Nat.le_refl _⟩

/-- the scope ids an operation mentions exist -/
def validOpL (st : State) : Op → Prop
  | .get (some s) _ _ => s < st.nscopes
  | .get none _ _ => 0 < st.nscopes
  | .getGroup (some s) _ _ => s < st.nscopes
  | .getGroup none _ _ => 0 < st.nscopes
  | .createScope _ _ => True
  | .closeScope _ _ => True

def ValidHistL (beh : Beh) : State → List Op → Prop
  | _, [] => True
  | st, op :: rest => validOpL st op ∧ ValidHistL beh (stepOp beh st op) rest

theorem validOpL_scope {st : State} {op : Op} (hv : validOpL st op) :
    ∀ s, Law.scopeOf op = some s → s < st.nscopes := by
  intro s hs
  cases op with
  | get x _ _ => cases x <;> cases hs <;> exact hv
  | getGroup x _ _ => cases x <;> cases hs <;> exact hv
  | _ => cases hs

/-- THE LEDGER OVER HISTORIES: after any history of resolutions, scope creations and closes (with
constructors and Close methods failing wherever they like) the ledger invariant holds and nothing
that was owed at any earlier point has been forgotten -/
theorem ledger_run (beh : Beh) : ∀ (ops : List Op) (st : State), WF st.descs → InstSingleton st.descs → InitOK st →
    Ledger st → ValidHistL beh st ops → LStep st (run beh st ops) :=
  fun ops st wf is i L hv => ((ledgerLaw beh wf is).runValid (V := ValidHistL beh)
    (fun _ _ _ _ hv => ⟨validOpL_scope hv.1, hv.2⟩) ops st rfl L i hv).1

/-- `Provider.Close` keeps the ledger and forgets nothing -/
theorem ledger_closeProvider (beh : Beh) (order : List Nat → List Nat) (st : State) (L : Ledger st) :
    LStep st (closeProvider beh order st).1 := by
  refine closeProvider_cases beh order st (M := fun r => LStep st r.1) (fun _ => LStep.refl L)
    (fun _ f r1 r2 r3 _ e1 e2 e3 => ?_)
  have h0 : LStep st { st with disposed := true, provScopes := none } :=
    Unseen.lstep (.of_eq (fun _ => rfl) rfl rfl (Nat.le_refl _) (Nat.le_refl _)) L
  have h1 : LStep { st with disposed := true, provScopes := none } r1.1 := e1 ▸ (ledger_close beh order f).2 _ _ h0.ledger
  have h2 : LStep r1.1 r2.1 := e2 ▸ (ledger_close beh order (closeFuel r1.1)).1 r1.1 rootScope h1.ledger
  have h3 : LStep r2.1 r3.1 := e3 ▸ drain_provider_lstep beh r2.1 h2.ledger
  exact (((h0.trans h1).trans h2).trans h3).unseen (.of_eq (fun _ => rfl) rfl rfl (Nat.le_refl _) (Nat.le_refl _))

/-! ### resolution never touches an instance that existed before -/

/-- ids handed out before the step are neither (un)listed nor closed by it -/
def OldSame (st st' : State) : Prop := SameOff (st.next ≤ ·) st st' ∧ st.next ≤ st'.next

theorem OldSame.trans {a b c : State} (h1 : OldSame a b) (h2 : OldSame b c) : OldSame a c :=
  ⟨h1.1.trans (h2.1.mono (fun _ h => Nat.le_trans h1.2 h)), Nat.le_trans h1.2 h2.2⟩

theorem OldSame.then {a b c : State} {S : Inst → Prop} (h1 : OldSame a b) (h2 : SameOff S b c)
    (hS : ∀ j, S j → a.next ≤ j) (hn : b.next ≤ c.next) : OldSame a c :=
  ⟨h1.1.trans (h2.mono hS), Nat.le_trans h1.2 hn⟩

theorem OldSame.unseen {a b c : State} (h : OldSame a b) (u : Unseen b c) : OldSame a c :=
  h.then (u.sameOff (fun _ => False)) (fun _ => False.elim) u.next

theorem construct_old (beh : Beh) (st : State) (s : Nat) (d : Desc) (args : List Val) :
    OldSame st (construct beh st s d args).1 := by
  refine construct_cases beh st s d args (B := OldSame st) (P := OldSame st)
    ⟨(unseen_bumpInv st d.ctor).sameOff _, Nat.le_refl _⟩ ?_ ?_ ?_ ?_
  · intro st2 n how h2
    exact h2.unseen (unseen_logEv _ (closedCount_ctorFail _ _ _ _ _))
  · intro st2 n h2
    exact (h2.unseen (unseen_logEv _ (closedCount_ctor _ _ _ _ _ _))).unseen (unseen_setInstance_other _ s d d.ident .unit nofun)
  · intro st2 n sibs0 sibs' nil? h2 _ _
    exact ((h2.unseen (unseen_allocLog ..)).then (storeOuts_sameOff s _ _ _)
      (fun j hj => Nat.le_trans h2.2 (mem_allocOuts hj).1) (Nat.le_of_eq (storeOuts_next_eq ..).symm)).unseen
      (unseen_markAbsent _ s _ _)
  · intro st2 n h2
    exact (h2.unseen (unseen_allocLog ..)).then (provideValue_sameOff _ s d st2.next) (fun j hj => hj ▸ h2.2)
      (Nat.le_of_eq (provideValue_next_eq ..).symm)

/-- RESOLUTION LEAVES EXISTING INSTANCES ALONE: nothing that was handed out before is listed,
unlisted or closed by a resolution (scoped and transient registrations are constructor-registered) -/
def oldRule (beh : Beh) {descs : List Desc} (is : InstSingleton descs) (s : Nat) : Rule beh descs s where
  I := fun _ => True
  R := OldSame
  C := fun d => ∀ v, d.kind ≠ .inst v
  refl := fun _ => ⟨SameOff.refl _ _, Nat.le_refl _⟩
  trans := OldSame.trans
  inv := fun _ _ => trivial
  covers := fun hm hl v hv => hl (is _ hm v hv)
  value := fun _ _ hc hk => absurd hk (hc _)
  construct := fun _ _ _ _ _ => construct_old beh _ s _ _

theorem createInstance_old (beh : Beh) (fuel : Nat) (st : State) (s : Nat) (d : Desc) (is : InstSingleton st.descs)
    (hk : ∀ v, d.kind ≠ .inst v) : OldSame st (createInstance beh fuel st s d).1 :=
  (oldRule beh is s).createInstance_step fuel st d rfl trivial hk

end Godi.Container
