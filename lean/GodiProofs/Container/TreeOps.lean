import GodiProofs.Container.Tree
/-!
# The forest invariant over histories

Every operation of a built provider — resolution, group resolution, scope creation from the provider or
from a scope (initializers that fail included), `Close` of any scope in any iteration order — keeps
`Tree` (`Tree.lean`). Hence, at every point of every history: the provider's table and every child table
hold open scopes only, an open scope's parent is open, and a closed scope has released its tables.

Resolution is within `TFrame`, whatever the registry, the scope and the lifetimes; so only the creation
of scopes and `Close` have to be looked at.
-/
namespace Godi.Container

theorem tframe_storeSingleton (st : State) (k : Ident) (v : Val) : TFrame st (storeSingleton st k v) := tframe_of_eq rfl rfl rfl

theorem tframe_putInstance (st : State) (s : Nat) (k : Ident) (v : Val) : TFrame st (putInstance st s k v) := by
  unfold putInstance
  exact tframe_upd st s _ (fun _ => rfl) (fun _ => rfl) (fun _ => rfl) (fun sc h => by simp [h])

theorem tframeKeeps (a : State) : StoreKeeps (TFrame a) where
  late := fun _ _ h => h.trans (tframe_of_eq rfl rfl rfl)
  listed := fun s _ h => h.trans (tframe_upd _ s _ (fun _ => rfl) (fun _ => rfl) (fun _ => rfl) (fun _ h => h))
  cached := fun s k v h => h.trans (tframe_putInstance _ s k v)
  single := fun k v h => h.trans (tframe_storeSingleton _ k v)
  owned := fun _ h => h.trans (tframe_of_eq rfl rfl rfl)

theorem tframe_setInstance (st : State) (s : Nat) (d : Desc) (k : Ident) (v : Val) : TFrame st (setInstance st s d k v).1 :=
  (tframeKeeps st).setInstance s d k v (.refl st)

/-- resolution and construction, for every lifetime, leave the forest alone -/
theorem tframe_all (beh : Beh) : ∀ fuel,
    (∀ st s ty key, TFrame st (resolve beh fuel st s ty key).1) ∧
    (∀ st s d, TFrame st (resolveDesc beh fuel st s d).1) ∧
    (∀ st s ty grp, TFrame st (getGroup beh fuel st s ty grp).1) ∧
    (∀ st s ds acc, TFrame st (resolveMembers beh fuel st s ds acc).1) ∧
    (∀ st s deps acc, TFrame st (buildArgs beh fuel st s deps acc).1) ∧
    (∀ st s d, TFrame st (createInstance beh fuel st s d).1) :=
  Rule.ofAllSteps beh TFrame.refl TFrame.trans (fun st s d v => (tframeKeeps st).provideValue s d v (.refl st))
    (fun st s d args => (tframeKeeps st).construct beh (fun _ h => h.trans (tframe_of_eq rfl rfl rfl))
      (fun _ _ _ h => h.trans (tframe_of_eq rfl rfl rfl)) (fun _ h => h.trans (tframe_of_eq rfl rfl rfl)) s d args (.refl st))

theorem tframeSteps : Steps (fun _ => True) TFrame := ⟨fun _ => TFrame.refl _, TFrame.trans, fun _ _ => trivial⟩

theorem runInitializers_tframe (beh : Beh) (s : Nat) (ids : List Nat) (st : State) :
    TFrame st (runInitializers beh st s ids).1 :=
  (tframeSteps.runInitializers (descs := st.descs) (N := fun _ => True) s
    (fun d _ _ _ _ => (tframe_all beh _).2.2.2.2.2 _ s d) ids st rfl trivial (fun _ _ _ _ => trivial)).1

def TablesBelow (st : State) (n : Nat) : Prop :=
  (∀ l, st.provScopes = some l → ∀ x ∈ l, x < n) ∧ (∀ p C, (st.scope p).children = some C → ∀ c ∈ C, c < n)

theorem tablesBelow_of_tree {A N : Nat → Prop} {st : State} (t : TreeEx A N st) : TablesBelow st st.nscopes :=
  ⟨fun l hl x hx => ((t.tbl l hl).2 x hx).1, fun p C hC c hc => ((t.kids p C hC).2 c hc).1⟩

/-- `allocScope`: the new scope is open, in no table yet (exempt from `member`) -/
theorem tree_alloc {A N : Nat → Prop} {st : State} (t : TreeEx A N st) (par : Option Nat) (ctx : Nat)
    (hpar : ∀ p, par = some p → p < st.nscopes ∧ (st.scope p).disposed = false) :
    TreeEx A (fun x => N x ∨ x = st.nscopes) (allocScope st par ctx) ∧ TablesBelow (allocScope st par ctx) st.nscopes := by
  have hold : ∀ x, x ≠ st.nscopes → (allocScope st par ctx).scope x = st.scope x := by
    intro x hx; rw [alloc_scope, if_neg hx]
  have hnew : (allocScope st par ctx).scope st.nscopes = { parent := par, ctxOf := ctx } := by rw [alloc_scope, if_pos rfl]
  have hpv : (allocScope st par ctx).provScopes = st.provScopes := rfl
  have tb := tablesBelow_of_tree t
  have hkids : ∀ p C, ((allocScope st par ctx).scope p).children = some C →
      (p = st.nscopes ∧ C = []) ∨ (p ≠ st.nscopes ∧ (st.scope p).children = some C) := by
    intro p C hC
    by_cases hps : p = st.nscopes
    · subst hps; rw [hnew] at hC; exact Or.inl ⟨rfl, (Option.some.inj hC).symm⟩
    · rw [hold p hps] at hC; exact Or.inr ⟨hps, hC⟩
  refine ⟨⟨?_, ?_, ?_, ?_, ?_, ?_, ?_⟩, ?_, ?_⟩
  · intro c p hcn hpp
    by_cases hc : c = st.nscopes
    · subst hc; rw [hnew] at hpp; exact (hpar p hpp).1
    · rw [hold c hc] at hpp; exact t.older c p (Nat.lt_of_le_of_ne (Nat.le_of_lt_succ hcn) hc) hpp
  · intro p C hC
    rcases hkids p C hC with ⟨_, rfl⟩ | ⟨_, hC⟩
    · exact ⟨List.nodup_nil, fun c hc => by cases hc⟩
    · exact table_mono (t.kids p C hC)
        (fun c ⟨h1, h2, h3⟩ => by rw [hold c (Nat.ne_of_lt h1)]; exact ⟨Nat.lt_succ_of_lt h1, h2, h3⟩)
  · intro l hl
    rw [hpv] at hl
    exact table_mono (t.tbl l hl)
      (fun x ⟨h1, h2, h3⟩ => by rw [hold x (Nat.ne_of_lt h1)]; exact ⟨Nat.lt_succ_of_lt h1, h2, h3⟩)
  · intro c p hcn hpp hdc
    by_cases hc : c = st.nscopes
    · subst hc
      rw [hnew] at hpp
      obtain ⟨hp1, hp2⟩ := hpar p hpp
      rw [hold p (Nat.ne_of_lt hp1)]; exact Or.inl hp2
    · rw [hold c hc] at hpp hdc
      have hc' : c < st.nscopes := Nat.lt_of_le_of_ne (Nat.le_of_lt_succ hcn) hc
      rw [hold p (Nat.ne_of_lt (Nat.lt_trans (t.older c p hc' hpp) hc'))]
      exact t.up c p hc' hpp hdc
  · intro c p C hcn hpp hdc hC
    by_cases hc : c = st.nscopes
    · exact Or.inr (Or.inr hc)
    · rw [hold c hc] at hpp hdc
      have hc' : c < st.nscopes := Nat.lt_of_le_of_ne (Nat.le_of_lt_succ hcn) hc
      rw [hold p (Nat.ne_of_lt (Nat.lt_trans (t.older c p hc' hpp) hc'))] at hC
      exact (t.member c p C hc' hpp hdc hC).imp id Or.inl
  · intro x hdx
    by_cases hx : x = st.nscopes
    · subst hx; rw [hnew]; rfl
    · rw [hold x hx] at hdx ⊢; exact t.openHas x hdx
  · intro x hdx hna
    by_cases hx : x = st.nscopes
    · subst hx; rw [hnew] at hdx; cases hdx
    · rw [hold x hx] at hdx ⊢; exact t.released x hdx hna
  · intro l hl x hx; rw [hpv] at hl; exact tb.1 l hl x hx
  · intro p C hC c hc
    rcases hkids p C hC with ⟨_, rfl⟩ | ⟨_, hC⟩
    · cases hc
    · exact tb.2 p C hC c hc

theorem tree_drop_exempt {A N : Nat → Prop} {st : State} (n : Nat) (t : TreeEx A (fun x => N x ∨ x = n) st)
    (h : (st.scope n).parent = none ∨ (st.scope n).disposed = true) : TreeEx A N st := by
  refine ⟨t.older, t.kids, t.tbl, t.up, ?_, t.openHas, t.released⟩
  intro c p C hcn hpp hdc hC
  rcases t.member c p C hcn hpp hdc hC with hm | hN | hcn'
  · exact Or.inl hm
  · exact Or.inr hN
  · subst hcn'
    rcases h with h | h
    · rw [h] at hpp; cases hpp
    · rw [h] at hdc; cases hdc

theorem tree_addChild {A N : Nat → Prop} {st : State} (n p : Nat) (t : TreeEx A (fun x => N x ∨ x = n) st)
    (hpn : (st.scope n).parent = some p) (hn : n < st.nscopes) (hopen : (st.scope n).disposed = false)
    (hnew : ∀ C, (st.scope p).children = some C → n ∉ C) : TreeEx A N (addChild st p n) := by
  have hfld : ∀ x, ((addChild st p n).scope x).disposed = (st.scope x).disposed ∧
      ((addChild st p n).scope x).parent = (st.scope x).parent ∧
      ((addChild st p n).scope x).instances = (st.scope x).instances ∧
      ((addChild st p n).scope x).children =
        if x = p then (st.scope p).children.map (fun (l : List Nat) => l ++ [n]) else (st.scope x).children := by
    intro x; rw [addChild_scope]; split
    next h => subst h; exact ⟨rfl, rfl, rfl, rfl⟩
    · exact ⟨rfl, rfl, rfl, rfl⟩
  have hd := fun x => (hfld x).1
  have hp := fun x => (hfld x).2.1
  have hc := fun x => (hfld x).2.2.2
  -- what the tables say of an entry is said of fields that stay
  have entry : ∀ c q, c < st.nscopes ∧ (st.scope c).parent = some q ∧ ((st.scope c).disposed = false ∨ A c) →
      c < (addChild st p n).nscopes ∧ ((addChild st p n).scope c).parent = some q ∧
        (((addChild st p n).scope c).disposed = false ∨ A c) := by
    intro c q h; rw [hp, hd]; exact h
  refine ⟨?_, ?_, ?_, ?_, ?_, ?_, ?_⟩
  · intro c q hcn hpp; rw [hp] at hpp; exact t.older c q hcn hpp
  · intro q C' hC'
    rw [hc] at hC'
    split at hC'
    next hq =>
      subst hq
      obtain ⟨C, hrc, rfl⟩ := Option.map_eq_some_iff.1 hC'
      exact table_snoc (table_mono (t.kids q C hrc) (fun c => entry c q)) (hnew C hrc)
        (entry n q ⟨hn, hpn, Or.inl hopen⟩)
    next hq => exact table_mono (t.kids q C' hC') (fun c => entry c q)
  · intro l hl
    exact table_mono (t.tbl l hl) (fun x ⟨h1, h2, h3⟩ => ⟨h1, h2, by rw [hd]; exact h3⟩)
  · intro c q hcn hpp hdc
    rw [hp] at hpp; rw [hd] at hdc ⊢
    exact t.up c q hcn hpp hdc
  · intro c q C' hcn hpp hdc hC'
    rw [hp] at hpp; rw [hd] at hdc; rw [hc] at hC'
    by_cases hcn' : c = n
    · -- the new scope: its parent is `p`, whose table it has just been appended to
      subst hcn'
      rw [hpn] at hpp; cases hpp
      rw [if_pos rfl] at hC'
      obtain ⟨C, _, rfl⟩ := Option.map_eq_some_iff.1 hC'
      exact Or.inl (List.mem_append_right _ (List.mem_singleton.2 rfl))
    · have old : ∀ C, (st.scope q).children = some C → c ∈ C ∨ N c :=
        fun C h => (t.member c q C hcn hpp hdc h).imp_right (·.resolve_right hcn')
      split at hC'
      next hq =>
        subst hq
        obtain ⟨C, hrc, rfl⟩ := Option.map_eq_some_iff.1 hC'
        exact (old C hrc).imp_left (List.mem_append_left _)
      next hq => exact old C' hC'
  · intro x hdx
    rw [hd] at hdx; rw [hc]
    split
    next h => subst h; rw [Option.isSome_map]; exact t.openHas x hdx
    · exact t.openHas x hdx
  · intro x hdx hna
    rw [hd] at hdx; rw [hc, (hfld x).2.2.1]
    obtain ⟨h1, h2⟩ := t.released x hdx hna
    split
    next h => subst h; rw [h1]; exact ⟨rfl, h2⟩
    · exact ⟨h1, h2⟩

theorem tree_addProv {A N : Nat → Prop} {st : State} (n : Nat) (t : TreeEx A N st)
    (hn : n < st.nscopes) (hroot : n ≠ rootScope) (hopen : (st.scope n).disposed = false)
    (hnew : ∀ l, st.provScopes = some l → n ∉ l) : TreeEx A N (addProvScope st n) := by
  refine ⟨t.older, t.kids, ?_, t.up, t.member, t.openHas, t.released⟩
  intro l' hl'
  obtain ⟨l, hl, rfl⟩ := Option.map_eq_some_iff.1 hl'
  exact table_snoc (t.tbl l hl) (hnew l hl) ⟨hn, hroot, Or.inl hopen⟩

theorem closeFuel_ge (st : State) (s : Nat) : (st.nscopes - s) * (st.nscopes + 1) + 1 ≤ closeFuel st := by
  unfold closeFuel
  have : (st.nscopes - s) * (st.nscopes + 1) ≤ (st.nscopes + 1) * (st.nscopes + 2) :=
    Nat.mul_le_mul (by omega) (by omega)
  omega

theorem tree_close_any (beh : Beh) (order : List Nat → List Nat) (hperm : ∀ l, (order l).Perm l) (st : State) (t : Tree st)
    (s : Nat) (hs : s < st.nscopes) :
    Tree (closeScope beh order (closeFuel st) st s).1 ∧ (closeScope beh order (closeFuel st) st s).1.nscopes = st.nscopes :=
  ⟨(tree_close beh order hperm (closeFuel st)).1 _ _ st s t hs (fun _ h => h.elim) (closeFuel_ge st s),
   closeScope_nscopes beh order _ st s⟩

/-- scope `n` has been allocated under `par` and is open, and no table mentions it yet -/
structure Pending (n : Nat) (par : Option Nat) (st : State) : Prop where
  tree : TreeEx (fun _ => False) (fun x => False ∨ x = n) st
  below : TablesBelow st n
  nscopes : st.nscopes = n + 1
  isOpen : (st.scope n).disposed = false
  parent : (st.scope n).parent = par

theorem Pending.tframe {n : Nat} {par : Option Nat} {st st' : State} (h : Pending n par st) (f : TFrame st st') :
    Pending n par st' :=
  ⟨f.tree h.tree,
   ⟨fun l hl => h.below.1 l (f.prov ▸ hl), fun p C hC => h.below.2 p C (f.children p ▸ hC)⟩,
   f.nscopes.trans h.nscopes, (f.disp n).trans h.isOpen, (f.parent n).trans h.parent⟩

theorem Pending.close (beh : Beh) {n : Nat} {par : Option Nat} {st : State} (h : Pending n par st) :
    Tree (closeScope beh id (closeFuel st) st n).1 ∧ 0 < (closeScope beh id (closeFuel st) st n).1.nscopes :=
  ⟨tree_drop_exempt n
    ((tree_close beh id (fun l => List.Perm.refl l) (closeFuel st)).1 _ _ st n h.tree
      (by rw [h.nscopes]; exact Nat.lt_succ_self n) (fun c hc => hc.elim False.elim Nat.le_of_eq) (closeFuel_ge st n))
    (Or.inr (closeScope_disposes beh id st st n)),
   by rw [closeScope_nscopes, h.nscopes]; exact Nat.succ_pos n⟩

theorem tree_pending (beh : Beh) (st : State) (par : Option Nat) (ctx : Nat) (t : Tree st)
    (hpar : ∀ p, par = some p → p < st.nscopes ∧ (st.scope p).disposed = false) :
    Pending st.nscopes par (runInitializers beh (allocScope st par ctx) st.nscopes st.initializers).1 :=
  Pending.tframe ⟨(tree_alloc t par ctx hpar).1, (tree_alloc t par ctx hpar).2, rfl, by rw [alloc_scope, if_pos rfl],
      by rw [alloc_scope, if_pos rfl]⟩
    (runInitializers_tframe beh st.nscopes st.initializers (allocScope st par ctx))

theorem tree_enter (beh : Beh) {n : Nat} {st : State} (t : Tree st) (hn : st.nscopes = n + 1) (h0 : 0 < n)
    (hopen : (st.scope n).disposed = false) (hnew : ∀ l, st.provScopes = some l → ∀ x ∈ l, x < n) :
    (Tree (closeScope beh id (closeFuel st) st n).1 ∧ 0 < (closeScope beh id (closeFuel st) st n).1.nscopes) ∧
    Tree (addProvScope st n) ∧ 0 < (addProvScope st n).nscopes := by
  have hlt : n < st.nscopes := by rw [hn]; exact Nat.lt_succ_self n
  have hpos : 0 < st.nscopes := Nat.lt_trans h0 hlt
  obtain ⟨tc, nc⟩ := tree_close_any beh id (fun l => List.Perm.refl l) st t n hlt
  exact ⟨⟨tc, by rw [nc]; exact hpos⟩,
    tree_addProv n t hlt (Nat.ne_of_gt h0) hopen (fun l hl hm => Nat.lt_irrefl n (hnew l hl n hm)), hpos⟩

def validOpT (st : State) : Op → Prop
  | .get _ _ _ => True
  | .getGroup _ _ _ => True
  | .createScope none _ => True
  | .createScope (some p) _ => p < st.nscopes
  | .closeScope s order => s < st.nscopes ∧ ∀ l, (order l).Perm l

theorem tree_stepOp (beh : Beh) (st : State) (op : Op) (t : Tree st) (h0 : 0 < st.nscopes) (hv : validOpT st op) :
    Tree (stepOp beh st op) ∧ 0 < (stepOp beh st op).nscopes := by
  let M (s : State) : Prop := Tree s ∧ 0 < s.nscopes
  have hres : ∀ st', TFrame st st' → M st' := fun st' f => ⟨f.tree t, by rw [f.nscopes]; exact h0⟩
  cases op with
  | get s ty key =>
    exact get_cases beh st s ty key (M := M) ⟨t, h0⟩ (hres _ ((tframe_all beh _).1 st _ ty key))
  | getGroup s ty grp =>
    exact getGroup_cases beh st s ty grp (M := M) ⟨t, h0⟩
      (hres _ ((tframe_all beh _).2.2.1 st _ ty grp))
  | createScope p ctx =>
    cases p with
    | none =>
      refine providerCreateScope_cases beh st ctx (M := M) ⟨t, h0⟩ (fun _ r hr => ?_)
      have pd := tree_pending beh st none ctx t (fun p hp => by cases hp)
      rw [← hr] at pd
      -- a scope without a parent is in no child table by right
      exact tree_enter beh (tree_drop_exempt _ pd.tree (Or.inl pd.parent)) pd.nscopes h0 pd.isOpen pd.below.1
    | some p =>
      refine scopeCreateScope_cases beh st p ctx (M := M) ⟨t, h0⟩ (fun hpo r hr => ?_)
      have pd := tree_pending beh st (some p) ctx t (fun q hq => by cases hq; exact ⟨hv, hpo⟩)
      rw [← hr] at pd
      have t2 : Tree (addChild r p st.nscopes) :=
        tree_addChild st.nscopes p pd.tree pd.parent (by rw [pd.nscopes]; exact Nat.lt_succ_self _) pd.isOpen
          (fun C hC hm => Nat.lt_irrefl _ (pd.below.2 p C hC _ hm))
      have hopen2 : ((addChild r p st.nscopes).scope st.nscopes).disposed = false := by
        rw [← pd.isOpen]; exact updScope_disposed r p _ st.nscopes (fun _ => rfl)
      exact ⟨pd.close beh, tree_enter beh t2 pd.nscopes h0 hopen2 pd.below.1⟩
  | closeScope s order =>
    obtain ⟨a, b⟩ := tree_close_any beh order hv.2 st t s hv.1
    exact ⟨a, by show 0 < (closeScope beh order (closeFuel st) st s).1.nscopes; rw [b]; exact h0⟩

def ValidHistT (beh : Beh) : State → List Op → Prop
  | _, [] => True
  | st, op :: rest => validOpT st op ∧ ValidHistT beh (stepOp beh st op) rest

/-- the forest invariant holds over every history, whatever is registered -/
theorem tree_run (beh : Beh) : ∀ (ops : List Op) (st : State), Tree st → 0 < st.nscopes →
    ValidHistT beh st ops → Tree (run beh st ops) :=
  fun ops st t h0 hv =>
    (run_induction beh (I := fun a => Tree a ∧ 0 < a.nscopes) (V := ValidHistT beh)
      (fun a op _ h hv => ⟨tree_stepOp beh a op h.1 h.2 hv.1, hv.2⟩) ops st ⟨t, h0⟩ hv).1

end Godi.Container
