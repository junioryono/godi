import GodiModel.Hyp
import GodiProofs.Container.BuildLedger
import GodiProofs.Container.BuildOrder
import GodiProofs.Container.NoCaptive
import GodiProofs.Container.TransientFresh
import GodiProofs.Container.RankOfVerdict
/-! The executable hypothesis checkers are sound: `failedHyps descs = []` gives every structural
hypothesis the container theorems assume. -/
namespace Godi.Container

theorem isInstKind_iff (k : Kind) (v : Inst) : isInstKind k v = true ↔ k = .inst v := by
  cases k <;> simp [isInstKind]

theorem sibLifeB_sound {descs : List Desc} (h : sibLifeB descs = true) : SibLife descs := by
  intro d hd sid hsid sd hf
  unfold sibLifeB at h
  have := (List.all_eq_true.1 ((List.all_eq_true.1 h) d hd)) sid hsid
  rw [hf] at this
  simpa using this

theorem uniqueIdsB_sound {descs : List Desc} (h : uniqueIdsB descs = true) : ∀ d ∈ descs, findDesc descs d.id = some d := by
  intro d hd
  unfold uniqueIdsB at h
  simpa using (List.all_eq_true.1 h) d hd

theorem wf_of_check {descs : List Desc} (h1 : sibLifeB descs = true) (h2 : uniqueIdsB descs = true) : WF descs :=
  ⟨sibLifeB_sound h1, uniqueIdsB_sound h2⟩

theorem regWF_of_check {descs : List Desc} (h1 : sameCtorB descs = true) (h2 : selfInB descs = true)
    (h3 : voidAloneB descs = true) (h4 : sibCtorB descs = true) (h5 : identUniqueB descs = true)
    (h6 : instSibsB descs = true) : RegWF descs := by
  refine ⟨?_, ?_, ?_, ?_, ?_, ?_⟩
  · intro d hd d' hd' hc
    unfold sameCtorB at h1
    have := (List.all_eq_true.1 ((List.all_eq_true.1 h1) d hd)) d' hd'
    simp only [Bool.or_eq_true, Bool.not_eq_true', beq_eq_false_iff_ne, ne_eq, beq_iff_eq, List.contains_eq_mem,
      decide_eq_true_eq] at this
    rcases this with (h | h) | h
    · exact absurd hc h
    · exact Or.inl h
    · exact Or.inr h
  · intro d hd
    unfold selfInB at h2
    have := (List.all_eq_true.1 h2) d hd
    simp only [Bool.or_eq_true, List.isEmpty_iff, List.contains_eq_mem, decide_eq_true_eq] at this
    exact this
  · intro d hd hk
    unfold voidAloneB at h3
    have := (List.all_eq_true.1 h3) d hd
    simp only [Bool.or_eq_true, Bool.not_eq_true', beq_eq_false_iff_ne, ne_eq, List.isEmpty_iff] at this
    rcases this with h | h
    · exact absurd hk h
    · exact h
  · intro d hd sid hsid sd hf
    unfold sibCtorB at h4
    have := (List.all_eq_true.1 ((List.all_eq_true.1 h4) d hd)) sid hsid
    rw [hf] at this
    simpa using this
  · intro d hd d' hd' hi
    unfold identUniqueB at h5
    have := (List.all_eq_true.1 ((List.all_eq_true.1 h5) d hd)) d' hd'
    simp only [Bool.or_eq_true, Bool.not_eq_true', beq_eq_false_iff_ne, ne_eq, beq_iff_eq] at this
    rcases this with h | h
    · exact absurd hi h
    · exact h
  · intro d hd v hk d' hd' hc
    unfold instSibsB at h6
    have := (List.all_eq_true.1 h6) d hd
    rw [hk] at this
    have := (List.all_eq_true.1 this) d' hd'
    simp only [Bool.or_eq_true, Bool.not_eq_true', beq_eq_false_iff_ne, ne_eq, isInstKind_iff] at this
    rcases this with h | h
    · exact absurd hc h
    · exact h

theorem instSingleton_of_check {descs : List Desc} (h : instSingletonB descs = true) : InstSingleton descs := by
  intro d hd v hk
  unfold instSingletonB at h
  have := (List.all_eq_true.1 h) d hd
  rw [hk] at this
  simpa using this

theorem instDistinct_of_check {descs : List Desc} (h : instDistinctB descs = true) : InstDistinct descs := by
  intro d hd d' hd' v hk hk'
  unfold instDistinctB at h
  have := (List.all_eq_true.1 h) d hd
  rw [hk] at this
  have := (List.all_eq_true.1 this) d' hd'
  simp only [Bool.or_eq_true, Bool.not_eq_true', beq_iff_eq] at this
  rcases this with h | h
  · have : isInstKind d'.kind v = true := (isInstKind_iff _ _).2 hk'
    rw [h] at this; cases this
  · exact h

/-- the tie of the hypotheses: when the driver's `p hyp` answers `ok` for the descriptors dumped from
godi's collection, every structural hypothesis of the container theorems holds for them -/
theorem hyps_of_check {descs : List Desc} (h : failedHyps descs = []) :
    WF descs ∧ RegWF descs ∧ InstSingleton descs ∧ InstDistinct descs ∧ KeysDistinct descs ∧ ServiceUnique descs ∧
    LongCtor descs 0 ∧ ¬ TransCtor descs 0 ∧ SibDeps descs ∧ DepKeys descs := by
  unfold failedHyps at h
  have e : ∀ (b : Bool) (s : String), (if b then ([] : List String) else [s]) = [] → b = true := by
    intro b s hb; cases b <;> simp at hb ⊢
  simp only [List.append_eq_nil_iff] at h
  obtain ⟨⟨⟨⟨⟨⟨⟨⟨⟨⟨⟨⟨⟨a1, a2⟩, a3⟩, a4⟩, a5⟩, a6⟩, a7⟩, a8⟩, a9⟩, a10⟩, a11⟩, a12⟩, a13⟩, a14⟩ := h
  have hz : ∀ d ∈ descs, d.ctor ≠ 0 := fun d hd => by
    have := List.all_eq_true.1 (e _ _ a12) d hd
    simpa using this
  have rw' := regWF_of_check (e _ _ a3) (e _ _ a4) (e _ _ a5) (e _ _ a6) (e _ _ a7) (e _ _ a8)
  exact ⟨wf_of_check (e _ _ a1) (e _ _ a2), rw',
    instSingleton_of_check (e _ _ a9), instDistinct_of_check (e _ _ a10),
    by have := e _ _ a11; unfold keysDistinctB at this; unfold KeysDistinct; exact of_decide_eq_true this,
    serviceUnique_of_identUnique rw'.identUnique, fun d hd hc => absurd hc (hz d hd),
    fun ⟨d, hd, hc, _⟩ => hz d hd hc, by
      have := e _ _ a13
      unfold sibDepsB at this
      intro d hd d' hd' hc
      have := (List.all_eq_true.1 ((List.all_eq_true.1 this) d hd)) d' hd'
      simp [hc] at this
      exact this, by
      have := e _ _ a14
      unfold depKeysB at this
      intro d hd dep hdep hg
      have := (List.all_eq_true.1 ((List.all_eq_true.1 this) d hd)) dep hdep
      simp [hg] at this
      exact this⟩

end Godi.Container
