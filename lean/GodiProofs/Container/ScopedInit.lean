import GodiProofs.Container.ScopedHistory
/-!
# One instance per scope, over whole histories

`newScope` runs every registered initializer (a scoped registration without a result) in the fresh
scope, and closes that scope again when one fails. The only extra fact needed is that an initializer's
constructor is not run *before its turn* in the new scope — by an earlier initializer or one of its
dependencies. Nothing depends on a registration that provides no service, so the rank that witnesses
acyclicity can be chosen to increase strictly along the initializer list (`InitsRanked`); every
constructor event an initializer causes has a rank at most its own. A state without initializers meets
`InitsRanked` trivially.

`createInstance` of an initializer is a step only where its constructor has not succeeded yet, which no
condition on the scope alone expresses: this is no `Law`, and the operations are taken apart by the case lemmas
of `Law.lean`.
-/
namespace Godi.Container

/-- every initializer id names scoped registrations only, and ranks increase strictly along the list -/
def InitsRanked (descs : List Desc) (rank : Nat → Nat) : List Nat → Prop
  | [] => True
  | id :: rest =>
    (∀ d, findDesc descs id = some d → d.life = .scoped ∧
      ∀ id' ∈ rest, ∀ d', findDesc descs id' = some d' → rank d.ctor < rank d'.ctor) ∧ InitsRanked descs rank rest

theorem sinv_runInitializers (beh : Beh) (descs : List Desc) (rank : Nat → Nat) (cfg : Cfg descs rank) (s : Nat) :
    ∀ (inits : List Nat) (st : State), SInv descs st → OpenCache st s → s < st.nscopes → InitsRanked descs rank inits →
      (∀ id ∈ inits, ∀ d, findDesc descs id = some d → countIn st.log d.ctor s = 0) →
      SInv descs (runInitializers beh st s inits).1 ∧ (runInitializers beh st s inits).1.nscopes = st.nscopes := by
  intro inits
  induction inits with
  | nil => intro st inv _ _ _ _; exact ⟨inv, rfl⟩
  | cons id rest ih =>
    intro st inv ho hs hr hz
    have hzr : ∀ id ∈ rest, ∀ d, findDesc descs id = some d → countIn st.log d.ctor s = 0 :=
      fun x hx => hz x (List.mem_cons_of_mem _ hx)
    unfold runInitializers
    rw [inv.descsEq]
    split
    · exact ih st inv ho hs hr.2 hzr
    next d hf =>
      obtain ⟨hsc, hlt⟩ := hr.1 d hf
      have res := (scopedOnce beh descs rank cfg (fuelFor st)).2.2.2.2.2 st s d (rank d.ctor + 1) inv ho hs
        (findDesc_mem hf) (by rw [hsc]; simp) (Nat.lt_succ_self _) (fun _ => hz id (List.mem_cons_self ..) d hf)
      dsimp only
      split
      · -- the later initializers rank above `d`, and `d` caused no event above its own rank
        obtain ⟨new, hlog, hb⟩ := res.log
        have hz' : ∀ id' ∈ rest, ∀ d', findDesc descs id' = some d' →
            countIn (createInstance beh (fuelFor st) st s d).1.log d'.ctor s = 0 := by
          intro id' hid' d' hd'
          rw [hlog, countIn_append, hzr id' hid' d' hd',
            countIn_of_bound rank s (rank d.ctor + 1) new hb d'.ctor s (Or.inl (hlt id' hid' d' hd'))]
        obtain ⟨h1, h2⟩ := ih _ res.inv res.opened (by rw [res.nscopes]; exact hs) hr.2 hz'
        exact ⟨h1, h2.trans res.nscopes⟩
      · exact ⟨res.inv, res.nscopes⟩

/-- a new scope with its initializers run: no event mentions its id yet -/
theorem sinv_initialized (beh : Beh) {descs : List Desc} {rank : Nat → Nat} (cfg : Cfg descs rank) {st : State}
    (inv : SInv descs st) (hi : InitsRanked descs rank st.initializers) (parent : Option Nat) (ctx : Nat) :
    SInv descs (runInitializers beh (allocScope st parent ctx) st.nscopes st.initializers).1 :=
  (sinv_runInitializers beh descs rank cfg st.nscopes st.initializers (allocScope st parent ctx)
    (sinv_allocScope inv parent ctx) (by unfold OpenCache allocScope; simp) (Nat.lt_succ_self _) hi
    (fun _ _ d _ => inv.fresh st.nscopes (Nat.le_refl _) d.ctor)).1

/-- the scope ids an operation mentions exist -/
def validOp (st : State) : Op → Prop
  | .get (some s) _ _ => s < st.nscopes
  | .get none _ _ => 0 < st.nscopes
  | .getGroup (some s) _ _ => s < st.nscopes
  | .getGroup none _ _ => 0 < st.nscopes
  | .createScope (some p) _ => p < st.nscopes
  | .createScope none _ => True
  | .closeScope s _ => s < st.nscopes

def ValidHist (beh : Beh) : State → List Op → Prop
  | _, [] => True
  | st, op :: rest => validOp st op ∧ ValidHist beh (stepOp beh st op) rest

theorem sinv_stepOp (beh : Beh) {descs : List Desc} {rank : Nat → Nat} (cfg : Cfg descs rank) {st : State}
    (inv : SInv descs st) (hi : InitsRanked descs rank st.initializers) (op : Op) (hv : validOp st op) :
    SInv descs (stepOp beh st op) := by
  have closed : ∀ {r : State} order fuel s, SInv descs r → SInv descs (closeScope beh order fuel r s).1 :=
    fun order fuel s h => h.close ((closeFrame_close beh order fuel).1 _ s)
  cases op with
  | get s ty key =>
    exact get_cases beh st s ty key (M := SInv descs) inv
      (sinv_scopeGet beh descs rank cfg st inv _ ty key (by cases s <;> exact hv))
  | getGroup s ty grp =>
    exact getGroup_cases beh st s ty grp (M := SInv descs) inv
      (sinv_scopeGetGroup beh descs rank cfg st inv _ ty grp (by cases s <;> exact hv))
  | createScope p ctx =>
    cases p with
    | none =>
      refine providerCreateScope_cases beh st ctx (M := SInv descs) inv (fun _ r hr => ?_)
      have h : SInv descs r := hr ▸ sinv_initialized beh cfg inv hi none ctx
      exact ⟨closed _ _ _ h, h.close (closeFrame_addProvScope _ _)⟩
    | some p =>
      refine scopeCreateScope_cases beh st p ctx (M := SInv descs) inv (fun _ r hr => ?_)
      have h : SInv descs r := hr ▸ sinv_initialized beh cfg inv hi (some p) ctx
      have h' := h.close (closeFrame_addChild _ p st.nscopes)
      exact ⟨closed _ _ _ h, closed _ _ _ h', h'.close (closeFrame_addProvScope _ _)⟩
  | closeScope s order => exact closed order _ s inv

theorem sinv_run_init (beh : Beh) (descs : List Desc) (rank : Nat → Nat) (cfg : Cfg descs rank) :
    ∀ (ops : List Op) (st : State), SInv descs st → InitsRanked descs rank st.initializers → ValidHist beh st ops →
      SInv descs (run beh st ops) := by
  intro ops
  induction ops with
  | nil => intro st inv _ _; exact inv
  | cons op rest ih =>
    intro st inv hi hv
    exact ih _ (sinv_stepOp beh cfg inv hi op hv.1) (by rw [(stepOp_sameRegistry beh st op).2]; exact hi) hv.2

end Godi.Container
