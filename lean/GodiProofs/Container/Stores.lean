import GodiProofs.Container.Law
import GodiProofs.Container.Stable
import GodiProofs.Container.Instances
/-!
# Invariants over the values the singleton table and the scope caches hold

The route a new invariant `I` of the run-time state takes: say what `provideValue` and `construct` do to it (from
`construct_cases` or `construct_result_cases` and the `*_keeps` lemmas of `Rule.lean`), make that a `Rule` for
resolution in a scope, put the rule and "every quiet step keeps `I`" into an `Invariant`, and read off `.build` (a
successful Build establishes `I`; nothing is said of a failing one, nor of `Provider.Close`) and `.run` (every
history keeps it).

`Stores I P E` does the first step for an `I` that speaks of the VALUES the two tables hold (`P`) and of the events
logged (`E`), not of the keys they are held under; `NoCaptive.lean`, `TransientFresh.lean` and `ArgsBelow.lean` are
the instances.
-/
namespace Godi.Container

theorem lookup_cachePut {m : List (Ident × Val)} {k k' : Ident} {v v' : Val} (h : lookup (cachePut m k v) k' = some v') :
    v' = v ∨ lookup m k' = some v' := by
  by_cases hk : k' = k
  · rw [hk, lookup_put_self] at h
    exact .inl (Option.some.inj h).symm
  · rw [lookup_put_ne m k k' v hk] at h
    exact .inr h

theorem cache_putInstance {st : State} {s : Nat} {k : Ident} {v : Val} {x : Nat} {k' : Ident} {v' : Val}
    (h : lookup (((putInstance st s k v).scope x).instances.getD []) k' = some v') :
    v' = v ∨ lookup ((st.scope x).instances.getD []) k' = some v' := by
  by_cases hx : x = s
  · rw [hx, putInstance_instances] at h
    rw [hx]
    cases hm : (st.scope s).instances with
    | none => rw [hm] at h; simp [lookup] at h
    | some m => rw [hm] at h; exact lookup_cachePut h
  · rw [putInstance, updScope_other st s x _ hx] at h
    exact .inr h

theorem cache_updScope {st : State} {s : Nat} {f : ScopeSt → ScopeSt}
    (hf : ∀ sc, (f sc).instances = sc.instances ∨ (f sc).instances = none) {x : Nat} {k : Ident} {v : Val}
    (h : lookup (((updScope st s f).scope x).instances.getD []) k = some v) :
    lookup ((st.scope x).instances.getD []) k = some v := by
  by_cases hx : x = s
  · rw [hx, updScope_same] at h
    rw [hx]
    rcases hf (st.scope s) with e | e
    · rwa [e] at h
    · rw [e] at h; simp [lookup] at h
  · rwa [updScope_other st s x f hx] at h

theorem cache_allocScope {st : State} {parent : Option Nat} {ctx x : Nat} {k : Ident} {v : Val}
    (h : lookup (((allocScope st parent ctx).scope x).instances.getD []) k = some v) :
    lookup ((st.scope x).instances.getD []) k = some v := by
  unfold allocScope at h
  by_cases hx : x = st.nscopes
  · simp [hx, lookup] at h
  · simpa only [hx, ↓reduceIte] using h

theorem buildStart_holds_nothing (descs : List Desc) :
    (∀ k v, lookup (buildStart descs).singletons k ≠ some v) ∧
    (∀ s k v, lookup (((buildStart descs).scope s).instances.getD []) k ≠ some v) :=
  ⟨nofun, fun _ _ _ h => nomatch cache_allocScope h⟩

def MetaLe (st st' : State) : Prop := st.next ≤ st'.next ∧ ∀ i, i < st.next → st'.instMeta i = st.instMeta i

theorem MetaLe.refl (st : State) : MetaLe st st := ⟨Nat.le_refl _, fun _ _ => rfl⟩

theorem MetaLe.trans {a b c : State} (h1 : MetaLe a b) (h2 : MetaLe b c) : MetaLe a c :=
  ⟨Nat.le_trans h1.1 h2.1, fun i hi => (h2.2 i (Nat.lt_of_lt_of_le hi h1.1)).trans (h1.2 i hi)⟩

theorem MetaLe.of_eq {st st' : State} (hn : st'.next = st.next) (hm : st'.instMeta = st.instMeta) : MetaLe st st' :=
  ⟨Nat.le_of_eq hn.symm, fun i _ => by rw [hm]⟩

theorem alloc_metaLe (st : State) (k c n : Nat) : MetaLe st (alloc st k c n) :=
  ⟨Nat.le_add_right _ _, fun _ hi => if_neg fun h => Nat.lt_irrefl _ (Nat.lt_of_lt_of_le hi h.1)⟩

theorem instMeta_alloc_log (st : State) (k c n d s : Nat) (args : List Val) (outs : List Inst) (i : Inst)
    (h1 : st.next ≤ i) (h2 : i < st.next + k) :
    (logEv (alloc st k c n) (.ctor d c n s args outs)).instMeta i = (c, n) := by
  show (if st.next ≤ i ∧ i < st.next + k then (c, n) else st.instMeta i) = (c, n)
  rw [if_pos ⟨h1, h2⟩]

structure After (I : State → Prop) (st st' : State) : Prop where
  inv : I st'
  le : MetaLe st st'

theorem After.refl {I : State → Prop} {st : State} (h : I st) : After I st st := ⟨h, .refl st⟩

theorem After.trans {I : State → Prop} {a b c : State} (h1 : After I a b) (h2 : After I b c) : After I a c :=
  ⟨h2.inv, h1.le.trans h2.le⟩

theorem After.then {I : State → Prop} {a b c : State} (h1 : After I a b) (h2 : I b → After I b c) : After I a c :=
  h1.trans (h2 h1.inv)

/-- The steps that construct nothing and store nothing: Close, scope creation, bookkeeping. Disposal lists, child
tables and `provScopes` are not constrained: an invariant that mentions those is no `Invariant` and goes through a
`Law` of its own. -/
structure Quiet (st st' : State) : Prop where
  descs : st'.descs = st.descs
  singletons : st'.singletons = st.singletons
  next : st'.next = st.next
  instMeta : st'.instMeta = st.instMeta
  log : ∃ new, st'.log = st.log ++ new ∧ ∀ e ∈ new, ∃ o i ok, e = .closed o i ok
  cache : ∀ s k v, lookup ((st'.scope s).instances.getD []) k = some v → lookup ((st.scope s).instances.getD []) k = some v

theorem Quiet.same {st st' : State} (hd : st'.descs = st.descs) (hs : st'.singletons = st.singletons)
    (hn : st'.next = st.next) (hm : st'.instMeta = st.instMeta) (hl : st'.log = st.log) (hc : st'.scope = st.scope) :
    Quiet st st' :=
  ⟨hd, hs, hn, hm, log_grows_refl hl, fun _ _ _ h => hc ▸ h⟩

theorem Quiet.refl (st : State) : Quiet st st := .same rfl rfl rfl rfl rfl rfl

theorem Quiet.trans {a b c : State} (h1 : Quiet a b) (h2 : Quiet b c) : Quiet a c :=
  ⟨h2.descs.trans h1.descs, h2.singletons.trans h1.singletons, h2.next.trans h1.next,
    h2.instMeta.trans h1.instMeta, log_grows_trans h1.log h2.log, fun s k v h => h1.cache s k v (h2.cache s k v h)⟩

/-- (`f` is read off the goal, so `hf` is best given by a tactic: a term would be elaborated first and fix `f`) -/
theorem updScope_quiet (st : State) (s : Nat) (f : ScopeSt → ScopeSt)
    (hf : ∀ sc, (f sc).instances = sc.instances ∨ (f sc).instances = none) : Quiet st (updScope st s f) :=
  ⟨rfl, rfl, rfl, rfl, log_grows_refl rfl, fun _ _ _ => cache_updScope hf⟩

theorem allocScope_quiet (st : State) (parent : Option Nat) (ctx : Nat) : Quiet st (allocScope st parent ctx) :=
  ⟨rfl, rfl, rfl, rfl, log_grows_refl rfl, fun _ _ _ => cache_allocScope⟩

theorem bumpInv_quiet (st : State) (c : Nat) : Quiet st (bumpInv st c) := .same rfl rfl rfl rfl rfl rfl

theorem logClosed_quiet (st : State) (o : Nat) (i : Inst) (ok : Bool) : Quiet st (logClosed st o i ok) :=
  ⟨rfl, rfl, rfl, rfl, ⟨[_], rfl, fun _ he => ⟨o, i, ok, List.mem_singleton.1 he⟩⟩, fun _ _ _ h => h⟩

theorem track_quiet (st : State) (s : Nat) (v : Val) (disp : Bool) : Quiet st (track st s v disp).1 := by
  unfold track
  split
  · split
    · split
      · exact logClosed_quiet st s _ true
      · exact .refl st
    · split
      · dsimp only
        exact updScope_quiet st s _ fun _ => .inl (by rfl)
      · exact .refl st
  · split <;> exact .refl st

theorem closeLoop_quiet (beh : Beh) (owner : Nat) : ∀ (l : List Inst) (st : State), Quiet st (closeLoop beh owner st l).1
  | [], st => .refl st
  | _ :: rest, st => (logClosed_quiet st owner _ _).trans (closeLoop_quiet beh owner rest _)

theorem detach_quiet (st : State) (s : Nat) : Quiet st (detach st s) := by
  unfold detach
  have h1 : Quiet st (match (st.scope s).parent with
      | some p => updScope st p (fun sc => { sc with children := sc.children.map (fun (l : List Nat) => List.erase l s) })
      | none => st) := by
    split
    · exact updScope_quiet st _ _ fun _ => .inl (by rfl)
    · exact .refl st
  exact h1.trans (.same rfl rfl rfl rfl rfl rfl)

def quietClose (beh : Beh) : CloseRule beh where
  I := fun _ => True
  R := Quiet
  refl := fun _ => .refl _
  trans := .trans
  inv := fun _ _ => trivial
  enter := fun s _ _ => (updScope_quiet _ s _ fun _ => .inl (by rfl)).trans (updScope_quiet _ s _ fun _ => .inl (by rfl))
  drain := fun s _ _ => (updScope_quiet _ s _ fun _ => .inl (by rfl)).trans (closeLoop_quiet beh s _ _)
  leave := fun s _ _ => (detach_quiet _ s).trans (updScope_quiet _ s _ fun _ => .inr (by rfl))

theorem closeScope_quiet (beh : Beh) (order : List Nat → List Nat) (fuel : Nat) (st : State) (s : Nat) :
    Quiet st (closeScope beh order fuel st s).1 := (((quietClose beh).close order fuel).1 st s trivial).1

/-- an invariant that every quiet step keeps, and resolution in whatever scope (take `.inv`, or the step itself when
the rule's `R` is the default, of `Rule.resolve_step`, `getGroup_step`, `createInstance_step`) -/
structure Invariant (beh : Beh) (descs : List Desc) where
  I : State → Prop
  quiet : ∀ {a b}, I a → Quiet a b → I b
  resolve : ∀ {st} fuel s ty key, st.descs = descs → I st → I (resolve beh fuel st s ty key).1
  getGroup : ∀ {st} fuel s ty grp, st.descs = descs → I st → I (getGroup beh fuel st s ty grp).1
  create : ∀ {st} fuel s d, st.descs = descs → I st → d ∈ descs → I (createInstance beh fuel st s d).1

namespace Invariant
variable {beh : Beh} {descs : List Desc} (v : Invariant beh descs)

def law : Law beh descs where
  I := v.I
  resolve := fun fuel s ty key hd h _ => v.resolve fuel s ty key hd h
  getGroup := fun fuel s ty grp hd h _ => v.getGroup fuel s ty grp hd h
  initializer := fun fuel s d hd h _ hm _ => v.create fuel s d hd h hm
  close := fun order fuel s _ h => v.quiet h (closeScope_quiet beh order fuel _ s)
  allocScope := fun _ _ _ h => ⟨v.quiet h (allocScope_quiet _ _ _), trivial⟩
  addProvScope := fun _ _ h => v.quiet h (.same rfl rfl rfl rfl rfl rfl)
  addChild := fun p _ _ h => v.quiet h (updScope_quiet _ p _ fun _ => .inl (by rfl))

theorem run (ops : List Op) (st : State) (hd : st.descs = descs) (h : v.I st) : v.I (run beh st ops) :=
  v.law.run (fun _ _ => trivial) ops st hd h (fun _ _ _ _ => trivial)

theorem build (start : v.I (buildStart descs)) (order : List Nat) (hok : (buildRuntime beh descs order).2 = .ok ()) :
    v.I (buildRuntime beh descs order).1 ∧ (buildRuntime beh descs order).1.descs = descs :=
  have h := v.law.buildRuntime start trivial (fun d hd h _ hm _ _ => v.create _ _ d hd h hm)
    (fun _ _ h => v.quiet h (.same rfl rfl rfl rfl rfl rfl)) (fun _ _ _ _ => trivial) order hok
  ⟨h.1, h.2.1⟩

theorem build_run (start : v.I (buildStart descs)) (order : List Nat) (ops : List Op)
    (hok : (buildRuntime beh descs order).2 = .ok ()) : v.I (Container.run beh (buildRuntime beh descs order).1 ops) :=
  v.run ops _ (v.build start order hok).2 (v.build start order hok).1

end Invariant

theorem buildRuntime_initOK (beh : Beh) {descs : List Desc} (wf : WF descs) (order : List Nat)
    (hok : (buildRuntime beh descs order).2 = .ok ()) : InitOK (buildRuntime beh descs order).1 :=
  ((Law.free beh descs (·.life = .scoped)).buildRuntime trivial trivial (fun _ _ _ _ _ _ _ => trivial)
    (fun _ _ _ => trivial) (initializers_scoped descs wf) order hok).2.2

/-! ### invariants over what the tables hold

`P l st v`: in state `st` the value `v` may be kept for, and answered by, a registration of lifetime `l`;
`E st e`: the event `e` may be logged. An invariant that the two table writes keep for such values, logging
for such events, and every quiet step, is kept by all that `createInstance` does after the arguments are there. -/

structure Stores (I : State → Prop) (P : Life → State → Val → Prop) (E : State → Event → Prop) : Prop where
  step : ∀ {st st'}, I st → st'.descs = st.descs → st'.singletons = st.singletons → MetaLe st st' →
    (∃ new, st'.log = st.log ++ new ∧ ∀ e ∈ new, E st' e) →
    (∀ s k v, lookup ((st'.scope s).instances.getD []) k = some v → lookup ((st.scope s).instances.getD []) k = some v) →
    I st'
  closed : ∀ {st o i ok}, E st (.closed o i ok)
  fail : ∀ {st d c n s how}, E st (.ctorFail d c n s how)
  single : ∀ {st} k {v}, I st → P .singleton st v → I (storeSingleton st k v)
  put : ∀ {st} s k {v}, I st → P .scoped st v → I (putInstance st s k v)
  stable : ∀ {l a b v}, MetaLe a b → P l a v → P l b v
  absent : ∀ {l st}, P l st .absent
  unit : ∀ {l st}, P l st .unit

namespace Stores
variable {I : State → Prop} {P : Life → State → Val → Prop} {E : State → Event → Prop}

theorem quiet (S : Stores I P E) {a b : State} (h : I a) (q : Quiet a b) : After I a b := by
  obtain ⟨new, hlog, hnew⟩ := q.log
  refine ⟨S.step h q.descs q.singletons (.of_eq q.next q.instMeta) ⟨new, hlog, fun e he => ?_⟩ q.cache,
    .of_eq q.next q.instMeta⟩
  obtain ⟨o, i, ok, rfl⟩ := hnew e he
  exact S.closed

theorem alloc (S : Stores I P E) {st : State} (h : I st) (k c n : Nat) : After I st (alloc st k c n) :=
  ⟨S.step h rfl rfl (alloc_metaLe st k c n) (log_grows_refl rfl) fun _ _ _ h => h, alloc_metaLe st k c n⟩

theorem log (S : Stores I P E) {st : State} (h : I st) (e : Event) (he : E (logEv st e) e) : After I st (logEv st e) :=
  ⟨S.step h rfl rfl (.of_eq rfl rfl) ⟨[e], rfl, fun x hx => by rw [List.mem_singleton.1 hx]; exact he⟩ fun _ _ _ h => h,
    .of_eq rfl rfl⟩

theorem setInstance (S : Stores I P E) {st : State} (h : I st) (s : Nat) (d : Desc) (k : Ident) {v : Val}
    (hv : P d.life st v) : After I st (setInstance st s d k v).1 := by
  unfold Container.setInstance
  split
  next hl =>
    have h1 : After I st (storeSingleton st k v) := ⟨S.single k h (hl ▸ hv), .of_eq rfl rfl⟩
    cases v with
    | inst i =>
      dsimp only
      split
      · exact h1.then (S.quiet · (.same rfl rfl rfl rfl rfl rfl))
      · exact h1
    | _ => exact h1
  next hl =>
    have h1 : After I st (putInstance st s k v) := ⟨S.put s k h (hl ▸ hv), .of_eq rfl rfl⟩
    exact h1.then (S.quiet · (track_quiet _ s v d.disp))
  · exact S.quiet h (track_quiet st s v d.disp)

theorem shareInstance (S : Stores I P E) {st : State} (h : I st) (s : Nat) (d : Desc) (k : Ident) {v : Val}
    (hv : P d.life st v) : After I st (shareInstance st s d k v) := by
  unfold Container.shareInstance
  split
  next hl => exact ⟨S.single k h (hl ▸ hv), .of_eq rfl rfl⟩
  next hl => exact ⟨S.put s k h (hl ▸ hv), .of_eq rfl rfl⟩
  · exact .refl h

theorem shareAll (S : Stores I P E) (s self : Nat) {v : Val} (sibs : List Desc) {st : State} (h : I st)
    (hv : ∀ d ∈ sibs, P d.life st v) : After I st (shareAll st s self sibs v) :=
  shareAll_keeps (P := (After I st ·)) self sibs st
    (fun _ d hd h' => h'.then (S.shareInstance · s d d.ident (S.stable h'.le (hv d hd)))) (.refl h)

theorem storeOuts (S : Stores I P E) (s : Nat) (sibs : List Desc) (outs : List Inst) {st : State} (h : I st)
    (hv : ∀ d ∈ sibs, ∀ o ∈ outs, P d.life st (.inst o)) : After I st (storeOuts st s sibs outs).1 :=
  storeOuts_keeps (P := (After I st ·)) sibs outs st
    (fun _ d hd o ho h' => h'.then (S.setInstance · s d d.ident (S.stable h'.le (hv d hd o ho)))) (.refl h)

theorem markAbsent (S : Stores I P E) {st : State} (h : I st) (s : Nat) (sibs0 : List Desc) (nil? : Option Nat) :
    After I st (markAbsent st s sibs0 nil?) :=
  markAbsent_keeps (P := (After I st ·)) sibs0 nil? (fun d _ h' => h'.then (S.shareInstance · s d d.ident S.absent)) (.refl h)

theorem provideValue (S : Stores I P E) {st : State} (h : I st) (s : Nat) (d : Desc) {v : Inst}
    (hv : ∀ sd, sd = d ∨ sd ∈ d.sibs.filterMap (findDesc st.descs) → P sd.life st (.inst v)) :
    After I st (provideValue st s d v).1 ∧ ∀ w, (provideValue st s d v).2 = .ok w → P d.life (provideValue st s d v).1 w := by
  have h1 := S.setInstance h s d d.ident (hv d (.inl rfl))
  unfold Container.provideValue
  dsimp only
  split
  · exact ⟨h1, fun _ hw => nomatch hw⟩
  · have h2 := S.shareAll s d.id _ h1.inv fun sd hsd => S.stable h1.le (hv sd (.inr hsd))
    exact ⟨h1.trans h2, fun w hw => by cases hw; exact S.stable (h1.trans h2).le (hv d (.inl rfl))⟩

theorem construct (S : Stores I P E) (beh : Beh) {st : State} (h : I st) (s : Nat) {d : Desc} {args : List Val}
    (hev : ∀ {st'} n outs, MetaLe st st' → (∀ o ∈ outs, st.next ≤ o) → E st' (.ctor d.id d.ctor n s args outs))
    (fresh : ∀ sd, sd = d ∨ sd ∈ d.sibs.filterMap (findDesc st.descs) → ∀ (st' : State) (k n : Nat) (outs : List Inst) {i},
      MetaLe st st' → st'.next ≤ i → i < st'.next + k →
      P sd.life (logEv (Container.alloc st' k d.ctor n) (.ctor d.id d.ctor n s args outs)) (.inst i)) :
    After I st (construct beh st s d args).1 ∧
    ∀ w, (construct beh st s d args).2 = .ok w → P d.life (construct beh st s d args).1 w := by
  have logged : ∀ {st2} k n outs, After I st st2 → (∀ o ∈ outs, st2.next ≤ o) →
      After I st (logEv (Container.alloc st2 k d.ctor n) (.ctor d.id d.ctor n s args outs)) := by
    intro st2 k n outs h2 ho
    have h3 := h2.then (S.alloc · k d.ctor n)
    exact h3.then (S.log · _ (hev n outs h3.le fun o ho' => Nat.le_trans h2.le.1 (ho o ho')))
  refine construct_result_cases beh st s d args (B := fun st2 => After I st st2 ∧ st2.descs = st.descs)
    (P := fun r => After I st r.1 ∧ ∀ w, r.2 = .ok w → P d.life r.1 w) ⟨S.quiet h (bumpInv_quiet st d.ctor), rfl⟩ ?_ ?_ ?_ ?_
  · exact fun st2 n how e h2 => ⟨h2.1.then (S.log · _ S.fail), fun _ hw => nomatch hw⟩
  · exact fun st2 n res _ h2 hres => ⟨(h2.1.then (S.log · _ (hev n [] h2.1.le nofun))).then
      (S.setInstance · s d d.ident S.unit), fun w hw => by rw [hres w hw]; exact S.unit⟩
  · intro st2 n sibs0 sibs' nil? res _ h2 h0 hs' hres
    have ho := fun sd (hsd : sd ∈ sibs') o (ho : o ∈ allocOuts st2.next sibs'.length) =>
      fresh sd (mem_regOf (h0 ▸ mem_valued (hs' ▸ hsd))) st2 sibs'.length n (allocOuts st2.next sibs'.length) h2.1.le
        (mem_allocOuts ho).1 (mem_allocOuts ho).2
    have h3 := logged sibs'.length n (allocOuts st2.next sibs'.length) h2.1 fun o ho => (mem_allocOuts ho).1
    have h4 := (S.storeOuts s sibs' _ h3.inv ho).then (S.markAbsent · s sibs0 nil?)
    refine ⟨h3.trans h4, fun w hw => ?_⟩
    obtain ⟨o, ho', rfl⟩ := hres w hw
    exact S.stable h4.le (fresh d (.inl rfl) st2 _ n _ h2.1.le (mem_allocOuts ho').1 (mem_allocOuts ho').2)
  · intro st2 n _ _ h2
    have h3 := logged 1 n [st2.next] h2.1 fun o ho => Nat.le_of_eq (List.mem_singleton.1 ho).symm
    obtain ⟨h4, r4⟩ := S.provideValue h3.inv s d fun sd hsd =>
      fresh sd (h2.2 ▸ hsd) st2 1 n [st2.next] h2.1.le (Nat.le_refl _) (Nat.lt_succ_self _)
    exact ⟨h3.trans h4, r4⟩

end Stores

end Godi.Container
