import GodiProofs.Container.Drain
import GodiProofs.Container.BuildOnce
/-!
# The ledger holds from the first step of Build

`buildRuntime` starts from empty tables; singletons go to the provider's disposal list — each
constructor product once, each registered instance value once (whatever the number of interface
types it is registered under). So the built provider satisfies `Ledger` and `Tidy`, and so does
the partial provider a failing Build hands to its cleanup.
-/
namespace Godi.Container

/-- the part of the state the singleton-storing tail of `createInstance` never touches -/
structure ShapeSame (st st' : State) : Prop where
  scope : st'.scope = st.scope
  provScopes : st'.provScopes = st.provScopes
  nscopes : st'.nscopes = st.nscopes
  disposed : st'.disposed = st.disposed
  descs : st'.descs = st.descs
  initializers : st'.initializers = st.initializers

/-- no store, whatever the lifetime, touches these -/
theorem shapeKeeps (st : State) : StoreKeeps fun st' => st'.provScopes = st.provScopes ∧ st'.nscopes = st.nscopes ∧
    st'.disposed = st.disposed ∧ st'.descs = st.descs ∧ st'.initializers = st.initializers :=
  ⟨fun _ _ h => h, fun _ _ h => h, fun _ _ _ h => h, fun _ _ h => h, fun _ h => h⟩

theorem provideValue_shape {st : State} (wf : WF st.descs) (reg : RegWF st.descs) {d : Desc} (hd : d ∈ st.descs)
    (hl : d.life = .singleton) (s : Nat) (v : Inst) : ShapeSame st (provideValue st s d v).1 :=
  have k := (shapeKeeps st).provideValue s d v ⟨rfl, rfl, rfl, rfl, rfl⟩
  ⟨((singStore _).provideValue wf reg hd (singWrites wf reg hd hl s) v trivial rfl).1.scope,
    k.1, k.2.1, k.2.2.1, k.2.2.2.1, k.2.2.2.2⟩

/-- constructing a singleton writes the singleton table and the provider's list only: the stores for a
registration of singletons leave every scope alone (`SingStore.scope`) -/
theorem construct_shape (beh : Beh) {st : State} (wf : WF st.descs) (reg : RegWF st.descs) {d : Desc} (hd : d ∈ st.descs)
    (hl : d.life = .singleton) (s : Nat) (args : List Val) : ShapeSame st (construct beh st s d args).1 := by
  have k := (shapeKeeps st).construct beh (fun _ h => h) (fun _ _ _ h => h) (fun _ h => h) s d args ⟨rfl, rfl, rfl, rfl, rfl⟩
  refine ⟨?_, k.1, k.2.1, k.2.2.1, k.2.2.2.1, k.2.2.2.2⟩
  rcases (singStore _).construct beh wf reg hd (singWrites wf reg hd hl s) args with ⟨n, how, e, h⟩ | ⟨st3, h3, h⟩
  · rw [h]
    rfl
  · exact (h trivial).1.scope.trans h3.scope

/-- the shape of the state while Build creates the singletons: one scope (the root), nothing closed -/
structure BuildShape (descs : List Desc) (st : State) : Prop where
  descsEq : st.descs = descs
  nscopes : st.nscopes = 1
  open_ : st.disposed = false
  table : st.provScopes = some []
  noneDisposed : ∀ x, (st.scope x).disposed = false

theorem BuildShape.of_shape {descs : List Desc} {st st' : State} (B : BuildShape descs st) (h : ShapeSame st st') :
    BuildShape descs st' :=
  ⟨h.descs.trans B.descsEq, h.nscopes.trans B.nscopes, h.disposed.trans B.open_, h.provScopes.trans B.table,
   fun x => by rw [h.scope]; exact B.noneDisposed x⟩

theorem BuildShape.of_ext {descs : List Desc} {st st' : State} {s : Nat} (B : BuildShape descs st) (e : Ext st st' s) :
    BuildShape descs st' :=
  ⟨e.descs.trans B.descsEq, e.nscopes.trans B.nscopes, e.disposed.trans B.open_, e.provScopes.trans B.table, fun x => by
    by_cases hx : x = s
    · subst hx; rw [e.sdisposed]; exact B.noneDisposed x
    · rw [e.others x hx]; exact B.noneDisposed x⟩

theorem BuildShape.tidy {descs : List Desc} {st : State} (B : BuildShape descs st) : Tidy st := by
  refine ⟨?_, ?_, ?_⟩
  · intro x _ hd
    rw [B.noneDisposed x] at hd; cases hd
  · intro l _ x _ hx hroot _
    rw [B.nscopes] at hx
    have : x = rootScope := by unfold rootScope; omega
    exact absurd this hroot
  · intro _; rw [B.table]; rfl

/-- ONE SINGLETON CREATION keeps the ledger and the shape; a registered instance value must be new
to the ledger (it is: see `KInv` below) -/
theorem create_sing_lstep (beh : Beh) (f : Nat) (st : State) (d : Desc) (wf : WF st.descs) (rw' : RegWF st.descs)
    (is : InstSingleton st.descs) (L : Ledger st) {descs : List Desc} (B : BuildShape descs st) (hd : d ∈ st.descs)
    (hl : d.life = .singleton) (hv : ∀ v, d.kind = .inst v → Fresh st v ∧ v < st.next) :
    LStep st (createInstance beh (f + 1) st rootScope d).1 ∧ BuildShape descs (createInstance beh (f + 1) st rootScope d).1 := by
  have hns : d.life ≠ .singleton → rootScope < st.nscopes := fun h => absurd hl h
  rw [createInstance_succ]
  split
  next v hk =>
    exact ⟨provideValue_lstep st L rootScope d v hns (hv v hk).1 (hv v hk).2,
      B.of_shape (provideValue_shape wf rw' hd hl rootScope v)⟩
  next hk =>
    have hroot : rootScope < st.nscopes := by rw [B.nscopes]; exact Nat.lt_succ_self _
    have hA := ((ledgerRule beh wf is rootScope).resolution f).2.2.2.2.1 st d.deps [] rfl ⟨L, hroot⟩
    have eA := buildArgs_ext beh f st rootScope d.deps [] wf
    dsimp only
    generalize buildArgs beh f st rootScope d.deps [] = ra at hA eA
    split
    · exact ⟨hA.2.1.1, B.of_ext eA⟩
    next args _ =>
      exact ⟨hA.2.1.1.trans (construct_lstep beh (hA.1 ▸ wf) hA.2.1.1.ledger (hA.1 ▸ hd) (fun h => absurd hl h) args),
        (B.of_ext eA).of_shape (construct_shape beh (hA.1 ▸ wf) (hA.1 ▸ rw') (hA.1 ▸ hd) hl rootScope args)⟩

/-- registered instance values carry ids below the allocation counter -/
def InstBelow (st : State) : Prop := ∀ d ∈ st.descs, ∀ v, d.kind = .inst v → v < st.next

/-- a registered instance value that the ledger already knows has been stored under every identity
of its registration — so the creation loop skips it -/
def KInv (st : State) : Prop :=
  ∀ d ∈ st.descs, ∀ v, d.kind = .inst v → ¬ Fresh st v → (lookup st.singletons d.ident).isSome

/-- the invariants of the singleton-creation loop -/
structure BuildLedgerInv (descs : List Desc) (st : State) : Prop where
  ledger : Ledger st
  shape : BuildShape descs st
  below : InstBelow st
  kinv : KInv st

theorem buildLedger_step (beh : Beh) (descs : List Desc) (wf : WF descs) (rw' : RegWF descs) (is : InstSingleton descs)
    (idist : InstDistinct descs) (st : State) (inv : BuildLedgerInv descs st) (d : Desc) (hd : d ∈ descs)
    (hl : d.life = .singleton) (hnone : (lookup st.singletons d.ident).isSome = false) (f : Nat) :
    BuildLedgerInv descs (createInstance beh (f + 1) st rootScope d).1 ∧
    LStep st (createInstance beh (f + 1) st rootScope d).1 := by
  obtain rfl := inv.shape.descsEq
  have hv : ∀ v, d.kind = .inst v → Fresh st v ∧ v < st.next := fun v hk =>
    ⟨Classical.byContradiction fun hnf => (by rw [inv.kinv d hd v hk hnf] at hnone; cases hnone), inv.below d hd v hk⟩
  obtain ⟨h1, B1⟩ := create_sing_lstep beh f st d wf rw' is inv.ledger inv.shape hd hl hv
  have g1 := (createInstance_singleton beh f st rootScope d wf rw' hd hl).grows
  -- the counter does not fall, and an older id other than the value `d` registers is left alone
  have key : st.next ≤ (createInstance beh (f + 1) st rootScope d).1.next ∧ ∀ v, v < st.next → d.kind ≠ .inst v →
      (Fresh (createInstance beh (f + 1) st rootScope d).1 v ↔ Fresh st v) := by
    by_cases hk : ∃ w, d.kind = .inst w
    · obtain ⟨w, hw⟩ := hk
      rw [createInstance_succ]
      simp only [hw]
      exact ⟨Nat.le_of_eq (provideValue_next_eq ..).symm,
        fun v _ hv => (provideValue_sameOff st rootScope d w).fresh (fun e => hv (by rw [e]))⟩
    · have ho := createInstance_old beh (f + 1) st rootScope d is (fun w hw => hk ⟨w, hw⟩)
      exact ⟨ho.2, fun v hv _ => ho.1.fresh (Nat.not_le.2 hv)⟩
  refine ⟨⟨h1.ledger, B1, ?_, ?_⟩, h1⟩
  · intro d0 hd0 v hk0
    rw [B1.descsEq] at hd0
    exact Nat.lt_of_lt_of_le (inv.below d0 hd0 v hk0) key.1
  · -- a known registered value is stored under all its identities: by this step, or before
    intro d0 hd0 v hk0 hnf
    rw [B1.descsEq] at hd0
    by_cases hk : d.kind = .inst v
    · rw [createInstance_succ]
      simp only [hk]
      exact ((singStore _).provideValue wf rw' hd (singWrites wf rw' hd hl rootScope) v trivial rfl).2 d0 hd0
        (idist d hd d0 hd0 v hk hk0)
    · exact g1 _ (inv.kinv d0 hd0 v hk0 fun h => hnf ((key.2 v (inv.below d0 hd0 v hk0) hk).2 h))

/-- the singleton-creation loop keeps the invariants (whatever order, whatever fails) -/
theorem buildLedger_loop (beh : Beh) (descs : List Desc) (wf : WF descs) (rw' : RegWF descs) (is : InstSingleton descs)
    (idist : InstDistinct descs) : ∀ (order : List Nat) (st : State), BuildLedgerInv descs st →
    BuildLedgerInv descs (createSingletons beh st order).1 ∧ LStep st (createSingletons beh st order).1 := by
  intro order st inv
  refine (Steps.createSingletons (I := BuildLedgerInv descs) (R := fun a b => BuildLedgerInv descs b ∧ LStep a b)
    ⟨fun h => ⟨h, .refl h.ledger⟩, fun h1 h2 => ⟨h2.1, h1.2.trans h2.2⟩, fun _ h => h.1⟩
    (fun {st} d _ h hm hl hn => ?_) order st inv.shape.descsEq inv).1
  obtain ⟨f, hf⟩ := fuelFor_succ st
  rw [hf]
  exact buildLedger_step beh descs wf rw' is idist st h d hm hl hn f

theorem buildStart_inv (descs : List Desc) : BuildLedgerInv descs (buildStart descs) := by
  have hl : ∀ o, listOf (buildStart descs) o = [] := by
    intro o
    cases o with
    | none => rfl
    | some s => unfold listOf dispOf buildStart allocScope; by_cases h : s = 0 <;> simp [h]
  have hnot : ∀ j, ¬ Tracked (buildStart descs) j := fun j hj => by
    obtain ⟨o, ho⟩ := tracked_iff.1 hj
    rw [hl] at ho
    cases ho
  refine ⟨Ledger.of_lists (fun o => hl o ▸ List.nodup_nil) (fun i o _ h => by rw [hl] at h; cases h)
    (fun j hj => absurd hj (hnot j)) (fun _ => Nat.zero_le _) (fun j hj => hj.elim (fun h => absurd h (hnot j)) nofun)
    (fun s _ => hl (some s)), ⟨rfl, rfl, rfl, rfl, ?_⟩, ?_, ?_⟩
  · intro x; unfold buildStart allocScope; by_cases h : x = 0 <;> simp [h]
  · intro d hd v hk; exact instVal_lt_firstFresh descs d hd v hk
  · intro d _ v _ hnf
    exact absurd ⟨hnot v, rfl⟩ hnf

/-- what Build does on a failure: the partial provider is closed, and no list holds anything afterwards -/
theorem cleanup_ledger (beh : Beh) (st : State) (L : Ledger st) (T : Tidy st) (hopen : st.disposed = false) :
    Ledger (closeProvider beh id st).1 ∧ ∀ j, ¬ Tracked (closeProvider beh id st).1 j :=
  ⟨(ledger_closeProvider beh id st L).ledger, closeProvider_all_closed beh id (fun _ _ h => h) st L T hopen⟩

theorem build_initializers (beh : Beh) {descs : List Desc} (wf : WF descs) (is : InstSingleton descs) {st : State}
    (L : Ledger st) (B : BuildShape descs st) {ids : List Nat}
    (hi : ∀ id ∈ ids, ∀ d, findDesc descs id = some d → d.life = .scoped) :
    Ledger (runInitializers beh st rootScope ids).1 ∧ Tidy (runInitializers beh st rootScope ids).1 ∧
    (runInitializers beh st rootScope ids).1.disposed = false ∧ Stable st (runInitializers beh st rootScope ids).1 ∧
    0 < (runInitializers beh st rootScope ids).1.nscopes := by
  obtain rfl := B.descsEq
  have hroot : rootScope < st.nscopes := by rw [B.nscopes]; exact Nat.lt_succ_self _
  have h4 := ((ledgerLaw beh wf is).runInitializers rootScope ids st rfl L hroot hi).1.1
  obtain ⟨d4, r4, o4, n4⟩ := tidy_runInitializers beh (fun _ => False) rootScope ids st wf hi (B.noneDisposed rootScope)
    B.tidy.drained B.tidy.registered
  exact ⟨h4.ledger, ⟨d4, r4, fun _ => o4.provSome (by rw [B.table]; rfl)⟩, o4.pdisposed.trans B.open_,
    runInitializers_stable beh rootScope ids st wf hi, n4 ▸ hroot⟩

/-- BUILD AND THE LEDGER. For every registry (with the structural guarantees of the collection),
every constructor behaviour and every creation order:
* the state Build returns satisfies the ledger — no instance is listed twice, none closed twice;
* a successful Build returns an open, tidy provider with the registry it was given and scoped initializers:
  what `ledger_run`, `tidy_run` and `closeProvider_all_closed` ask of the state a history starts from;
* a failed Build has closed its partial provider: no disposal list holds anything, so every
  disposable created on the way has been closed exactly once. -/
theorem build_ledger (beh : Beh) (descs : List Desc) (order : List Nat) (wf : WF descs) (rw' : RegWF descs)
    (is : InstSingleton descs) (idist : InstDistinct descs) :
    Ledger (buildRuntime beh descs order).1 ∧
    ((buildRuntime beh descs order).2 = .ok () →
      Tidy (buildRuntime beh descs order).1 ∧ (buildRuntime beh descs order).1.disposed = false ∧
      (buildRuntime beh descs order).1.descs = descs ∧ InitOK (buildRuntime beh descs order).1 ∧
      0 < (buildRuntime beh descs order).1.nscopes) ∧
    (∀ e, (buildRuntime beh descs order).2 = .error e → ∀ j, ¬ Tracked (buildRuntime beh descs order).1 j) := by
  unfold buildRuntime
  have hn : newScope beh { descs := descs, next := firstFresh descs } none 0 false = (buildStart descs, .ok 0) := rfl
  simp only [hn]
  obtain ⟨j2, _⟩ := buildLedger_loop beh descs wf rw' is idist order (buildStart descs) (buildStart_inv descs)
  generalize createSingletons beh (buildStart descs) order = r2 at j2
  obtain ⟨st2, res2⟩ := r2
  cases res2 with
  | error e =>
    have hc := cleanup_ledger beh st2 j2.ledger j2.shape.tidy j2.shape.open_
    exact ⟨hc.1, nofun, fun _ _ => hc.2⟩
  | ok u =>
    dsimp only
    have hi3 : InitOK { st2 with initializers := (descs.filter isInitializer).map (·.id) } := by
      show ∀ id ∈ _, ∀ d, findDesc st2.descs id = some d → _
      rw [j2.shape.descsEq]
      exact initializers_scoped descs wf
    have L2 := j2.ledger
    have h := build_initializers beh wf is (st := { st2 with initializers := (descs.filter isInitializer).map (·.id) })
      ⟨L2.nodupS, L2.nodupP, L2.disjS, L2.disjP, L2.pending, L2.once, L2.known, L2.pristine⟩
      ⟨j2.shape.descsEq, j2.shape.nscopes, j2.shape.open_, j2.shape.table, j2.shape.noneDisposed⟩
      (initializers_scoped descs wf)
    generalize runInitializers beh _ rootScope _ = r4 at h
    obtain ⟨st4, res4⟩ := r4
    obtain ⟨L4, T4, o4, s4, n4⟩ := h
    cases res4 with
    | ok u4 => exact ⟨L4, fun _ => ⟨T4, o4, s4.descs.trans j2.shape.descsEq, s4.initOK hi3, n4⟩, nofun⟩
    | error e4 =>
      have hc := cleanup_ledger beh st4 L4 T4 o4
      exact ⟨hc.1, nofun, fun _ _ => hc.2⟩

end Godi.Container
