import GodiProofs.Container.TreeOps
import GodiProofs.Container.Ledger
/-!
# A scope's disposal list is in creation order

Instance ids are handed out by a counter (`State.next`) at the moment a constructor has returned. `SD st`: the
disposal list of every scope is strictly increasing in instance id — i.e. it lists the scope's disposable
instances in the order in which they were created — and mentions only ids below the counter. It holds in the state
Build returns and after every operation. `scope.Close` logs its own instances in the reverse of that list
(`closeScope_log`), hence in exactly the reverse of their creation order; an instance that was handed to a
constructor as an argument was created before that constructor's products and is therefore closed after them.
-/
namespace Godi.Container

def SortedBelow (l : List Inst) (b : Nat) : Prop := l.Pairwise (· < ·) ∧ ∀ i ∈ l, i < b

theorem SortedBelow.mono {l : List Inst} {b b' : Nat} (h : SortedBelow l b) (hb : b ≤ b') : SortedBelow l b' :=
  ⟨h.1, fun i hi => Nat.lt_of_lt_of_le (h.2 i hi) hb⟩

theorem SortedBelow.snoc {l : List Inst} {b b' i : Nat} (h : SortedBelow l b) (hb : b ≤ i) (hi : i < b') :
    SortedBelow (l ++ [i]) b' := by
  refine ⟨List.pairwise_append.2 ⟨h.1, List.pairwise_singleton _ _, ?_⟩, ?_⟩
  · intro a ha c hc
    rw [List.mem_singleton.1 hc]
    exact Nat.lt_of_lt_of_le (h.2 a ha) hb
  · intro a ha
    rcases List.mem_append.1 ha with h1 | h1
    · exact Nat.lt_trans (Nat.lt_of_lt_of_le (h.2 a h1) hb) hi
    · rw [List.mem_singleton.1 h1]; exact hi

theorem sortedBelow_nil (b : Nat) : SortedBelow [] b := ⟨List.Pairwise.nil, fun _ h => by cases h⟩

/-- every scope's disposal list is increasing and below `b`: ids from `b` on are not yet in any list -/
def SDb (st : State) (b : Nat) : Prop := ∀ s, SortedBelow (dispOf st s) b

abbrev SD (st : State) : Prop := SDb st st.next

theorem SDb.mono {st : State} {b b' : Nat} (h : SDb st b) (hb : b ≤ b') : SDb st b' := fun s => (h s).mono hb

theorem SDb.sd {st : State} {b : Nat} (h : SDb st b) (hb : st.next = b) : SD st := by
  subst hb
  exact h

theorem sdb_updScope {st : State} {b : Nat} (h : SDb st b) (s : Nat) (g : ScopeSt → ScopeSt)
    (hg : SortedBelow ((g (st.scope s)).disposables.getD []) b) : SDb (updScope st s g) b := by
  intro x
  unfold dispOf
  rw [scope_upd]
  split
  · exact hg
  · exact h x

theorem sdb_putInstance {st : State} {b : Nat} (h : SDb st b) (s : Nat) (k : Ident) (v : Val) :
    SDb (putInstance st s k v) b := by
  refine sdb_updScope h s _ ?_
  exact h s

/-- `track` puts an instance that is at least `b` at the end of its scope's list -/
theorem sdb_track {st : State} {b b' : Nat} (h : SDb st b) (hb : b ≤ b') (s : Nat) (v : Val) (disp : Bool)
    (hv : ∀ i, v = .inst i → b ≤ i ∧ i < b') : SDb (track st s v disp).1 b' := by
  unfold track
  split
  next i =>
    split
    · split <;> exact h.mono hb
    · split
      · dsimp only
        refine sdb_updScope (h.mono hb) s _ ?_
        exact (h s).snoc (hv i rfl).1 (hv i rfl).2
      · exact h.mono hb
  · split <;> exact h.mono hb

/-- only an instance of a scoped or transient registration enters a scope's list -/
theorem sdb_setInstance {st : State} {b b' : Nat} (h : SDb st b) (hb : b ≤ b') (s : Nat) (d : Desc) (k : Ident) (v : Val)
    (hv : ∀ i, v = .inst i → d.life ≠ .singleton → b ≤ i ∧ i < b') : SDb (setInstance st s d k v).1 b' := by
  unfold setInstance
  split
  · dsimp only
    split
    · split <;> exact h.mono hb
    · exact h.mono hb
  next hl => exact sdb_track (sdb_putInstance h s k v) hb s v d.disp (fun i hi => hv i hi (by rw [hl]; simp))
  next hl => exact sdb_track h hb s v d.disp (fun i hi => hv i hi (by rw [hl]; simp))

theorem sdb_shareInstance {st : State} {b : Nat} (h : SDb st b) (s : Nat) (d : Desc) (k : Ident) (v : Val) :
    SDb (shareInstance st s d k v) b := by
  unfold shareInstance
  split
  · exact h
  · exact sdb_putInstance h s k v
  · exact h

theorem sdb_shareAll {st : State} {b : Nat} (h : SDb st b) (s self : Nat) (sibs : List Desc) (v : Val) :
    SDb (shareAll st s self sibs v) b :=
  shareAll_keeps (P := (SDb · b)) self sibs st (fun _ d _ h => sdb_shareInstance h s d d.ident v) h

theorem sdb_markAbsent {st : State} {b : Nat} (h : SDb st b) (s : Nat) (sibs0 : List Desc) (nil? : Option Nat) :
    SDb (markAbsent st s sibs0 nil?) b :=
  markAbsent_keeps (P := (SDb · b)) sibs0 nil? (fun d _ h => sdb_shareInstance h s d d.ident .absent) h

/-- `storeOuts` of increasing ids from `b` on: each goes to the end of a list, in that order -/
theorem sdb_storeOuts (s : Nat) {b' : Nat} : ∀ (sibs : List Desc) (outs : List Inst) {st : State} {b : Nat}, SDb st b → b ≤ b' →
    outs.Pairwise (· < ·) → (∀ o ∈ outs, b ≤ o ∧ o < b') → SDb (storeOuts st s sibs outs).1 b'
  | [], _, _, _, h, hb, _, _ => by unfold storeOuts; exact h.mono hb
  | _ :: _, [], _, _, h, hb, _, _ => by unfold storeOuts; exact h.mono hb
  | d :: ds, o :: os, st, b, h, _, hp, ho => by
    unfold storeOuts
    obtain ⟨hlt, hos⟩ := List.pairwise_cons.1 hp
    obtain ⟨hbo, hob⟩ := ho o (List.mem_cons_self ..)
    have h1 : SDb (setInstance st s d d.ident (.inst o)).1 (o + 1) :=
      sdb_setInstance h (Nat.le_succ_of_le hbo) s d d.ident _ (fun i hi _ => by cases hi; exact ⟨hbo, Nat.lt_succ_self _⟩)
    exact sdb_storeOuts s ds os h1 hob hos (fun x hx => ⟨hlt x hx, (ho x (List.mem_cons_of_mem _ hx)).2⟩)

/-! ### resolution keeps every disposal list in creation order -/

theorem provideValue_sd {st : State} {b : Nat} (h : SDb st b) (hb : b ≤ st.next) (s : Nat) (d : Desc) (v : Inst)
    (hv : d.life ≠ .singleton → b ≤ v ∧ v < st.next) : SD (provideValue st s d v).1 := by
  have h1 : SDb (setInstance st s d d.ident (.inst v)).1 st.next :=
    sdb_setInstance h hb s d d.ident _ (fun i hi hl => by cases hi; exact hv hl)
  unfold provideValue
  dsimp only
  split
  · exact h1.sd (setInstance_next_eq ..)
  · exact (sdb_shareAll h1 _ _ _ _).sd (by simp)

/-- the products get the ids from the counter on, which no list mentions yet -/
theorem construct_sd (beh : Beh) {st : State} (h : SD st) (s : Nat) (d : Desc) (args : List Val) :
    SD (construct beh st s d args).1 := by
  refine construct_cases beh st s d args (B := SD) (P := SD) h ?_ ?_ ?_ ?_
  · exact fun _ _ _ h2 => h2
  · exact fun st2 _ h2 => (sdb_setInstance (st := logEv st2 _) h2 (Nat.le_refl _) s d d.ident .unit nofun).sd
      (setInstance_next_eq ..)
  · intro st2 _ _ _ _ h2 _ _
    refine (sdb_markAbsent (sdb_storeOuts s _ _ (st := logEv (alloc st2 _ _ _) _) h2 (Nat.le_add_right _ _)
      (allocOuts_sorted ..) (fun _ => mem_allocOuts)) _ _ _).sd ?_
    rw [markAbsent_next_eq, storeOuts_next_eq]
    rfl
  · exact fun st2 _ h2 => provideValue_sd (st := logEv (alloc st2 1 _ _) _) h2 (Nat.le_succ _) s d st2.next
      (fun _ => ⟨Nat.le_refl _, Nat.lt_succ_self _⟩)

/-- `SD` as a rule of resolution; a registered instance value belongs to a singleton and enters no scope's list -/
def sdRule (beh : Beh) {descs : List Desc} (is : InstSingleton descs) (s : Nat) : Rule beh descs s where
  I := SD
  C := (· ∈ descs)
  covers := fun h _ => h
  value := fun _ h hc hk => provideValue_sd h (Nat.le_refl _) s _ _ (fun hn => absurd (is _ hc _ hk) hn)
  construct := fun _ h _ _ _ => construct_sd beh h s _ _

/-! ### `Close` only empties lists -/

structure DispShrink (st st' : State) : Prop where
  next : st'.next = st.next
  lists : ∀ x, dispOf st' x = dispOf st x ∨ dispOf st' x = []

theorem DispShrink.refl (st : State) : DispShrink st st := ⟨rfl, fun _ => Or.inl rfl⟩
theorem DispShrink.trans {a b c : State} (h1 : DispShrink a b) (h2 : DispShrink b c) : DispShrink a c :=
  ⟨h2.next.trans h1.next, fun x => by
    rcases h2.lists x with h | h
    · rw [h]; exact h1.lists x
    · exact Or.inr h⟩

theorem DispShrink.sd {st st' : State} (h : DispShrink st st') (sd : SD st) : SD st' := by
  intro x
  show SortedBelow (dispOf st' x) st'.next
  rw [h.next]
  rcases h.lists x with e | e
  · rw [e]; exact sd x
  · rw [e]; exact sortedBelow_nil _

theorem dispShrink_of_fields {st st' : State} (hn : st'.next = st.next)
    (hs : ∀ x, (st'.scope x).disposables = (st.scope x).disposables ∨ (st'.scope x).disposables = none) :
    DispShrink st st' := by
  refine ⟨hn, fun x => (hs x).imp (fun e => ?_) (fun e => ?_)⟩
  · unfold dispOf; rw [e]
  · unfold dispOf; rw [e]; rfl

theorem dispShrink_updScope (st : State) (s : Nat) (g : ScopeSt → ScopeSt)
    (hg : (g (st.scope s)).disposables = (st.scope s).disposables ∨ (g (st.scope s)).disposables = none) :
    DispShrink st (updScope st s g) := by
  refine dispShrink_of_fields rfl (fun x => ?_)
  rw [scope_upd]
  split
  next hx => subst hx; exact hg
  · exact Or.inl rfl

def dispClose (beh : Beh) : CloseRule beh where
  I := fun _ => True
  R := DispShrink
  refl := fun _ => .refl _
  trans := .trans
  inv := fun _ _ => trivial
  enter := fun s _ _ => (dispShrink_updScope _ s (fun sc => { sc with disposed := true }) (.inl rfl)).trans
    (dispShrink_updScope _ s (fun sc => { sc with children := none }) (.inl rfl))
  drain := fun s _ _ => (dispShrink_updScope _ s (fun sc => { sc with disposables := none }) (.inr rfl)).trans
    (dispShrink_of_fields (by rw [closeLoop_eq]; rfl) (fun x => .inl (by rw [closeLoop_scope]; rfl)))
  leave := fun s _ _ =>
    (dispShrink_of_fields (by unfold detach; split <;> rfl) (fun x => .inl (detach_disposables _ s x))).trans
      (dispShrink_updScope _ s (fun sc => { sc with instances := none }) (.inl rfl))

theorem dispShrink_close (beh : Beh) (order : List Nat → List Nat) : ∀ fuel,
    (∀ st s, DispShrink st (closeScope beh order fuel st s).1) ∧
    (∀ st l, DispShrink st (closeChildren beh order fuel st l).1) :=
  fun fuel => ⟨fun st s => (((dispClose beh).close order fuel).1 st s trivial).1,
    fun st l => (((dispClose beh).close order fuel).2 st l trivial).1⟩

theorem sd_of_fields {st st' : State} (hs : ∀ x, (st'.scope x).disposables = (st.scope x).disposables) (hn : st'.next = st.next)
    (h : SD st) : SD st' :=
  (dispShrink_of_fields hn (fun x => .inl (hs x))).sd h

theorem sd_alloc {st : State} (h : SD st) (par : Option Nat) (ctx : Nat) : SD (allocScope st par ctx) := by
  intro x
  show SortedBelow (dispOf (allocScope st par ctx) x) st.next
  unfold dispOf
  rw [alloc_scope]
  split
  · exact sortedBelow_nil _
  · exact h x

theorem newScope_descs (beh : Beh) (st : State) (par : Option Nat) (ctx : Nat) (ri : Bool) (wf : WF st.descs) (i : InitOK st) :
    (newScope beh st par ctx ri).1.descs = st.descs := (newScope_stable beh st par ctx ri wf i).descs

def sdLaw (beh : Beh) {descs : List Desc} (is : InstSingleton descs) : Law beh descs where
  I := SD
  resolve := fun fuel s ty key hd h _ => (sdRule beh is s).resolve_step fuel _ ty key hd h
  getGroup := fun fuel s ty grp hd h _ => (sdRule beh is s).getGroup_step fuel _ ty grp hd h
  initializer := fun fuel s d hd h _ hm _ => (sdRule beh is s).createInstance_step fuel _ d hd h hm
  close := fun order fuel s _ h => ((dispShrink_close beh order fuel).1 _ s).sd h
  allocScope := fun parent ctx _ h => ⟨sd_alloc h parent ctx, trivial⟩
  addProvScope := fun _ _ h => sd_of_fields (fun _ => rfl) rfl h
  addChild := fun p _ _ h => (dispShrink_updScope _ p _ (.inl rfl)).sd h

theorem sd_run (beh : Beh) (descs : List Desc) (is : InstSingleton descs) : ∀ (ops : List Op) (st : State), st.descs = descs →
    SD st → SD (run beh st ops) :=
  fun ops st hd h => (sdLaw beh is).run (fun _ _ => trivial) ops st hd h (fun _ _ _ _ => trivial)

/-- the state a successful Build returns has every disposal list in creation order -/
theorem sd_buildRuntime (beh : Beh) {descs : List Desc} (is : InstSingleton descs) (order : List Nat)
    (hok : (buildRuntime beh descs order).2 = .ok ()) : SD (buildRuntime beh descs order).1 :=
  ((sdLaw beh is).buildRuntime
    (sd_alloc (st := { descs := descs, next := firstFresh descs }) (fun _ => sortedBelow_nil _) none 0) trivial
    (fun d hd h _ hm _ _ => (sdRule beh is rootScope).createInstance_step _ _ d hd h hm)
    (fun _ _ h => sd_of_fields (fun _ => rfl) rfl h) (fun _ _ _ _ => trivial) order hok).1

end Godi.Container
