import GodiProofs.Container.Ledger
import GodiProofs.Container.Close
/-!
# Nothing is leaked: after `Provider.Close` no disposal list holds anything

`Tidy st`: a closed scope has handed in its disposal list, every open scope other than the root is entered
in the provider's scope table, and an open provider has that table. All three hold at every operation boundary
of an open provider; inside `Close` the first is suspended for the scopes whose `Close` is on the stack
(`DrainedExcept`), inside `CreateScope` the second for the scope being created (`RegEx`).
`Provider.Close` closes every scope of the table and the root scope, so afterwards every scope is
closed, hence drained; with the ledger (`Ledger.lean`): everything owed has been closed exactly once.

Of the step relations: `Ext ⇒ CloseEff ⇒ OpenEff` (resolution in a scope, `Close`, any operation).
-/
namespace Godi.Container

def DrainedExcept (A : Nat → Prop) (st : State) : Prop :=
  ∀ x, ¬ A x → (st.scope x).disposed = true → (st.scope x).disposables = none

/-- every open scope other than the root (and other than the exempt ones: a scope that is being
created) is in the provider's table -/
def RegEx (B : Nat → Prop) (st : State) : Prop :=
  ∀ l, st.provScopes = some l → ∀ x, ¬ B x → x < st.nscopes → x ≠ rootScope → (st.scope x).disposed = false → x ∈ l

abbrev Registered (st : State) : Prop := RegEx (fun _ => False) st

structure Tidy (st : State) : Prop where
  drained : DrainedExcept (fun _ => False) st
  registered : Registered st
  tableOpen : st.disposed = false → st.provScopes.isSome

theorem drainedExcept_same {A : Nat → Prop} {st st' : State} (h : DrainedExcept A st)
    (hs : ∀ x, (st'.scope x).disposed = (st.scope x).disposed ∧ (st'.scope x).disposables = (st.scope x).disposables) :
    DrainedExcept A st' := by
  intro x hx hd
  rw [(hs x).1] at hd
  rw [(hs x).2]
  exact h x hx hd

theorem regEx_mono {B : Nat → Prop} {st st' : State} (h : RegEx B st) (hp : st'.provScopes = st.provScopes)
    (hn : st'.nscopes = st.nscopes)
    (hd : ∀ x, (st'.scope x).disposed = (st.scope x).disposed ∨ (st'.scope x).disposed = true) : RegEx B st' := by
  intro l hl x hb hx hroot hdx
  rw [hp] at hl; rw [hn] at hx
  refine h l hl x hb hx hroot ?_
  rcases hd x with e | e
  · rw [← e]; exact hdx
  · rw [hdx] at e; cases e

/-- `Close` of a scope allocates no scope, does not touch the provider's `disposed` flag, and neither installs
nor takes away the provider's table: what `Tidy.tableOpen` and the closing of the whole table ask of it -/
structure CloseEff (st st' : State) : Prop where
  nscopes : st'.nscopes = st.nscopes
  pdisposed : st'.disposed = st.disposed
  provNone : st.provScopes = none → st'.provScopes = none
  provSome : st.provScopes.isSome → st'.provScopes.isSome

theorem CloseEff.refl (st : State) : CloseEff st st := ⟨rfl, rfl, fun h => h, fun h => h⟩
theorem CloseEff.trans {a b c : State} (h1 : CloseEff a b) (h2 : CloseEff b c) : CloseEff a c :=
  ⟨h2.nscopes.trans h1.nscopes, h2.pdisposed.trans h1.pdisposed, fun h => h2.provNone (h1.provNone h),
   fun h => h2.provSome (h1.provSome h)⟩

theorem closeLoop_closeEff (beh : Beh) (owner : Nat) (l : List Inst) (st : State) :
    CloseEff st (closeLoop beh owner st l).1 := by
  rw [closeLoop_eq]; exact ⟨rfl, rfl, fun h => h, fun h => h⟩

theorem close_closeEff (beh : Beh) (order : List Nat → List Nat) (fuel : Nat) :
    (∀ st s, CloseEff st (closeScope beh order fuel st s).1) ∧
    (∀ st l, CloseEff st (closeChildren beh order fuel st l).1) :=
  let r := CloseRule.ofFrame beh CloseEff CloseEff.refl CloseEff.trans (fun _ _ _ => ⟨rfl, rfl, fun h => h, fun h => h⟩)
    (fun _ _ _ _ => ⟨rfl, rfl, fun h => h, fun h => h⟩)
    (fun st f => ⟨rfl, rfl, fun h => by show st.provScopes.map f = none; rw [h]; rfl,
      fun h => by show (st.provScopes.map f).isSome; rw [Option.isSome_map]; exact h⟩)
  ⟨fun st s => ((r.close order fuel).1 st s trivial).1, fun st l => ((r.close order fuel).2 st l trivial).1⟩

theorem regEx_detach {B : Nat → Prop} {st : State} {s : Nat} (h : RegEx B st) (hs : (st.scope s).disposed = true) :
    RegEx B (detach st s) := by
  intro l hl x hb hx hroot hdx
  rw [detach_provScopes] at hl
  obtain ⟨l0, hl0, rfl⟩ := Option.map_eq_some_iff.1 hl
  rw [detach_disposed] at hdx
  rw [detach_nscopes] at hx
  have hxs : x ≠ s := fun e => by subst e; rw [hs] at hdx; cases hdx
  exact (List.mem_erase_of_ne hxs).2 (h l0 hl0 x hb hx hroot hdx)

/-- `Close` opens no scope and takes none but closed scopes out of the table -/
def regExClose (beh : Beh) (B : Nat → Prop) : CloseRule beh where
  I := RegEx B
  enter := fun {st} s h _ => regEx_mono h rfl rfl (fun x => by
    by_cases hxs : x = s
    · subst hxs; rw [mark_self]; exact .inr rfl
    · rw [mark_other st s x hxs]; exact .inl rfl)
  drain := fun {st} s h _ => regEx_mono h (by rw [closeLoop_eq]; rfl) (by rw [closeLoop_eq]; rfl) (fun x => by
    rw [closeLoop_scope]; exact .inl (updScope_disposed st s _ x (fun _ => rfl)))
  leave := fun {st} s h hs => regEx_mono (regEx_detach h hs) rfl rfl
    (fun x => .inl (updScope_disposed _ s _ x (fun _ => rfl)))

theorem regEx_close (beh : Beh) (order : List Nat → List Nat) (fuel : Nat) {B : Nat → Prop} :
    (∀ st s, RegEx B st → RegEx B (closeScope beh order fuel st s).1) ∧
    (∀ st l, RegEx B st → RegEx B (closeChildren beh order fuel st l).1) :=
  ⟨fun st s h => (((regExClose beh B).close order fuel).1 st s h).1,
   fun st l h => (((regExClose beh B).close order fuel).2 st l h).1⟩

/-- `Close` hands in the disposal list of every scope it closes; while the `Close` of `s` is running
(`A` grows by `s`) the list of `s` is still there -/
theorem drained_close (beh : Beh) (order : List Nat → List Nat) : ∀ fuel,
    (∀ (A : Nat → Prop) st s, DrainedExcept A st → DrainedExcept A (closeScope beh order fuel st s).1) ∧
    (∀ (A : Nat → Prop) st l, DrainedExcept A st → DrainedExcept A (closeChildren beh order fuel st l).1) := by
  intro fuel
  induction fuel with
  | zero => exact ⟨fun _ _ _ h => h, fun _ _ _ h => h⟩
  | succ f ih =>
    obtain ⟨ihS, ihC⟩ := ih
    refine ⟨?_, ?_⟩
    · intro A st s hd
      refine closeScope_cases beh order f st s (M := fun r => DrainedExcept A r.1) (fun _ => hd) (fun _ r1 r2 e1 e2 => ?_)
      have hd1 : DrainedExcept (fun x => A x ∨ x = s) (takeChildren (markDisposed st s) s) := by
        intro x hx hdx
        rw [mark_other st s x (fun e => hx (Or.inr e))] at hdx ⊢
        exact hd x (fun h => hx (Or.inl h)) hdx
      have hd2 : DrainedExcept (fun x => A x ∨ x = s) r1.1 := e1 ▸ ihC _ _ _ hd1
      have hd3 : DrainedExcept A (takeDisposables r1.1 s) := by
        intro x hx hdx
        by_cases hxs : x = s
        · subst hxs; simp [takeDisposables, updScope]
        · have e : (takeDisposables r1.1 s).scope x = r1.1.scope x := by simp [takeDisposables, updScope, hxs]
          rw [e] at hdx ⊢
          exact hd2 x (fun h => h.elim hx hxs) hdx
      show DrainedExcept A (dropInstances (detach r2.1 s) s)
      refine drainedExcept_same hd3 (fun x => ?_)
      have e3 : r2.1.scope = (takeDisposables r1.1 s).scope := e2 ▸ closeLoop_scope beh s _ _
      rw [← e3, ← detach_disposed r2.1 s x, ← detach_disposables r2.1 s x]
      exact ⟨updScope_disposed _ s _ x (fun _ => rfl), updScope_disposables _ s _ x (fun _ => rfl)⟩
    · intro A st l hd
      cases l with
      | nil => exact hd
      | cons c rest =>
        unfold closeChildren
        exact ihC A _ rest (ihS A st c hd)

theorem resolve_disposed (beh : Beh) (f : Nat) (st : State) (s ty key : Nat) (h : (st.scope s).disposed = true) :
    (resolve beh f st s ty key).1 = st := by
  cases f with
  | zero => rfl
  | succ f => unfold resolve; simp [h]

theorem getGroup_disposed (beh : Beh) (f : Nat) (st : State) (s ty grp : Nat) (h : (st.scope s).disposed = true) :
    (getGroup beh f st s ty grp).1 = st := by
  cases f with
  | zero => rfl
  | succ f => unfold getGroup; simp [h]

theorem runInitializers_ext (beh : Beh) (s : Nat) (ids : List Nat) (st : State) (wf : WF st.descs)
    (hi : ∀ id ∈ ids, ∀ d, findDesc st.descs id = some d → d.life = .scoped) :
    Ext st (runInitializers beh st s ids).1 s :=
  (Steps.runInitializers (I := fun _ => True) (R := (Ext · · s)) ⟨fun _ => Ext.refl _ s, Ext.trans, fun _ _ => trivial⟩ s
    (fun d hd _ hm hl => createInstance_ext beh _ _ s d (hd ▸ wf) (hd ▸ hm) (by rw [hl]; simp)) ids st rfl trivial hi).1

theorem tidy_ext {B : Nat → Prop} {st st' : State} {s : Nat} (e : Ext st st' s)
    (hopen : (st.scope s).disposed = false)
    (hd : DrainedExcept (fun _ => False) st) (hr : RegEx B st) :
    DrainedExcept (fun _ => False) st' ∧ RegEx B st' := by
  refine ⟨?_, regEx_mono hr e.provScopes e.nscopes (fun x => ?_)⟩
  · intro x hx hdx
    by_cases hxs : x = s
    · subst hxs; rw [e.sdisposed, hopen] at hdx; cases hdx
    · rw [e.others x hxs] at hdx ⊢; exact hd x hx hdx
  · by_cases hxs : x = s
    · subst hxs; exact .inl e.sdisposed
    · rw [e.others x hxs]; exact .inl rfl

/-- kept by every operation of a history: the provider's `disposed` flag, and the presence of its table -/
structure OpenEff (st st' : State) : Prop where
  pdisposed : st'.disposed = st.disposed
  provSome : st.provScopes.isSome → st'.provScopes.isSome

theorem OpenEff.refl (st : State) : OpenEff st st := ⟨rfl, fun h => h⟩
theorem OpenEff.trans {a b c : State} (h1 : OpenEff a b) (h2 : OpenEff b c) : OpenEff a c :=
  ⟨h2.pdisposed.trans h1.pdisposed, fun h => h2.provSome (h1.provSome h)⟩
theorem CloseEff.openEff {st st' : State} (e : CloseEff st st') : OpenEff st st' := ⟨e.pdisposed, e.provSome⟩
theorem Ext.closeEff {st st' : State} {s : Nat} (e : Ext st st' s) : CloseEff st st' :=
  ⟨e.nscopes, e.disposed, fun h => by rw [e.provScopes]; exact h, fun h => by rw [e.provScopes]; exact h⟩

theorem tidy_runInitializers (beh : Beh) (B : Nat → Prop) (s : Nat) (ids : List Nat) (st : State) (wf : WF st.descs)
    (hi : ∀ id ∈ ids, ∀ d, findDesc st.descs id = some d → d.life = .scoped)
    (hopen : (st.scope s).disposed = false) (hd : DrainedExcept (fun _ => False) st) (hr : RegEx B st) :
    DrainedExcept (fun _ => False) (runInitializers beh st s ids).1 ∧ RegEx B (runInitializers beh st s ids).1 ∧
    OpenEff st (runInitializers beh st s ids).1 ∧ (runInitializers beh st s ids).1.nscopes = st.nscopes :=
  have e := runInitializers_ext beh s ids st wf hi
  ⟨(tidy_ext e hopen hd hr).1, (tidy_ext e hopen hd hr).2, e.closeEff.openEff, e.nscopes⟩

def openLaw (beh : Beh) {descs : List Desc} (wf : WF descs) : Law beh descs where
  I := fun _ => True
  R := OpenEff
  N := (·.life = .scoped)
  refl := fun _ => .refl _
  trans := .trans
  inv := fun _ _ => trivial
  resolve := fun fuel s ty key hd _ _ => (resolve_ext beh fuel _ s ty key (hd ▸ wf)).closeEff.openEff
  getGroup := fun fuel s ty grp hd _ _ => (getGroup_ext beh fuel _ s ty grp (hd ▸ wf)).closeEff.openEff
  initializer := fun fuel s d hd _ _ hm hl =>
    (createInstance_ext beh fuel _ s d (hd ▸ wf) (hd ▸ hm) (by rw [hl]; simp)).closeEff.openEff
  close := fun order fuel s _ _ => ((close_closeEff beh order fuel).1 _ s).openEff
  allocScope := fun _ _ _ _ => ⟨⟨rfl, fun h => h⟩, trivial⟩
  addProvScope := fun s _ _ => ⟨rfl, fun h => by unfold addProvScope; rw [Option.isSome_map]; exact h⟩
  addChild := fun _ _ _ _ => ⟨rfl, fun h => h⟩

/-- closing the scope that is being created removes the exemption -/
theorem regEx_closed (beh : Beh) (st : State) (n : Nat) (hd : DrainedExcept (fun _ => False) st)
    (hr : RegEx (fun x => x = n) st) :
    DrainedExcept (fun _ => False) (closeScope beh id (closeFuel st) st n).1 ∧
    Registered (closeScope beh id (closeFuel st) st n).1 := by
  refine ⟨(drained_close beh id _).1 _ st n hd, fun l hl x _ hx hroot hdx => ?_⟩
  refine (regEx_close beh id _).1 st n hr l hl x (fun hxn => ?_) hx hroot hdx
  subst hxn
  rw [closeScope_disposes] at hdx
  cases hdx

theorem regEx_addProvScope (st : State) (n : Nat) (hr : RegEx (fun x => x = n) st) : Registered (addProvScope st n) := by
  intro l hl x _ hx hroot hdx
  obtain ⟨l0, hl0, rfl⟩ := Option.map_eq_some_iff.1 hl
  by_cases hxs : x = n
  · subst hxs; simp
  · exact List.mem_append_left _ (hr l0 hl0 x hxs hx hroot hdx)

theorem tidy_pending (beh : Beh) (st : State) (parent : Option Nat) (ctx : Nat) (wf : WF st.descs) (i : InitOK st)
    (hd : DrainedExcept (fun _ => False) st) (hr : Registered st) :
    DrainedExcept (fun _ => False) (runInitializers beh (allocScope st parent ctx) st.nscopes st.initializers).1 ∧
    RegEx (fun x => x = st.nscopes) (runInitializers beh (allocScope st parent ctx) st.nscopes st.initializers).1 := by
  have hopen0 : ((allocScope st parent ctx).scope st.nscopes).disposed = false := by rw [alloc_scope, if_pos rfl]
  have hold : ∀ x, x ≠ st.nscopes → (allocScope st parent ctx).scope x = st.scope x := by
    intro x hx; rw [alloc_scope, if_neg hx]
  have hd0 : DrainedExcept (fun _ => False) (allocScope st parent ctx) := by
    intro x hx hdx
    by_cases hxs : x = st.nscopes
    · subst hxs; rw [hopen0] at hdx; cases hdx
    · rw [hold x hxs] at hdx ⊢; exact hd x hx hdx
  have hr0 : RegEx (fun x => x = st.nscopes) (allocScope st parent ctx) := by
    intro l hl x hb hx hroot hdx
    rw [hold x hb] at hdx
    exact hr l hl x (fun h => h) (Nat.lt_of_le_of_ne (Nat.le_of_lt_succ hx) hb) hroot hdx
  have h := tidy_runInitializers beh _ st.nscopes st.initializers (allocScope st parent ctx) wf i hopen0 hd0 hr0
  exact ⟨h.1, h.2.1⟩

theorem tidy_stepOp (beh : Beh) (st : State) (op : Op) (wf : WF st.descs) (i : InitOK st) (T : Tidy st) :
    Tidy (stepOp beh st op) ∧ (stepOp beh st op).disposed = st.disposed := by
  have e := (openLaw beh wf).stepOp st op rfl trivial i (fun _ _ => trivial)
  let M (s : State) : Prop := DrainedExcept (fun _ => False) s ∧ Registered s
  suffices h : M (stepOp beh st op) from
    ⟨⟨h.1, h.2, fun hh => e.provSome (T.tableOpen (by rw [← e.pdisposed]; exact hh))⟩, e.pdisposed⟩
  -- a resolution in a closed scope does nothing
  have hres : ∀ (st' : State) (s : Nat), Ext st st' s → ((st.scope s).disposed = true → st' = st) → M st' := by
    intro st' s e hdisp
    by_cases h : (st.scope s).disposed = true
    · rw [hdisp h]; exact ⟨T.drained, T.registered⟩
    · exact tidy_ext e (by simpa using h) T.drained T.registered
  cases op with
  | get s ty key =>
    exact get_cases beh st s ty key (M := M) ⟨T.drained, T.registered⟩
      (hres _ _ (resolve_ext beh _ st _ ty key wf) (resolve_disposed beh _ st _ ty key))
  | getGroup s ty grp =>
    exact getGroup_cases beh st s ty grp (M := M) ⟨T.drained, T.registered⟩
      (hres _ _ (getGroup_ext beh _ st _ ty grp wf) (getGroup_disposed beh _ st _ ty grp))
  | createScope p ctx =>
    cases p with
    | none =>
      refine providerCreateScope_cases beh st ctx (M := M) ⟨T.drained, T.registered⟩ (fun _ r hr => ?_)
      obtain ⟨hd1, hr1⟩ := tidy_pending beh st none ctx wf i T.drained T.registered
      rw [← hr] at hd1 hr1
      exact ⟨regEx_closed beh r _ hd1 hr1, drainedExcept_same hd1 (fun _ => ⟨rfl, rfl⟩), regEx_addProvScope r _ hr1⟩
    | some p =>
      refine scopeCreateScope_cases beh st p ctx (M := M) ⟨T.drained, T.registered⟩ (fun _ r hr => ?_)
      obtain ⟨hd1, hr1⟩ := tidy_pending beh st (some p) ctx wf i T.drained T.registered
      rw [← hr] at hd1 hr1
      have hd2 : DrainedExcept (fun _ => False) (addChild r p st.nscopes) := drainedExcept_same hd1
        (fun x => ⟨updScope_disposed _ p _ x (fun _ => rfl), updScope_disposables _ p _ x (fun _ => rfl)⟩)
      have hr2 : RegEx (fun x => x = st.nscopes) (addChild r p st.nscopes) :=
        regEx_mono hr1 rfl rfl (fun x => .inl (updScope_disposed _ p _ x (fun _ => rfl)))
      exact ⟨regEx_closed beh r _ hd1 hr1, regEx_closed beh _ _ hd2 hr2,
        drainedExcept_same hd2 (fun _ => ⟨rfl, rfl⟩), regEx_addProvScope _ _ hr2⟩
  | closeScope s order =>
    exact ⟨(drained_close beh order _).1 _ st s T.drained, (regEx_close beh order _).1 st s T.registered⟩

theorem tidy_run (beh : Beh) : ∀ (ops : List Op) (st : State), WF st.descs → InitOK st → Tidy st →
    Tidy (run beh st ops) ∧ (run beh st ops).disposed = st.disposed :=
  fun ops st wf i T =>
    (run_induction beh (I := fun a => (WF a.descs ∧ InitOK a) ∧ Tidy a ∧ a.disposed = st.disposed) (V := fun _ _ => True)
      (fun a op _ h _ =>
        have s1 := stepOp_sameRegistry beh a op
        have t1 := tidy_stepOp beh a op h.1.1 h.1.2 h.2.1
        ⟨⟨⟨s1.1 ▸ h.1.1, s1.initsIn h.1.2⟩, t1.1, t1.2.trans h.2.2⟩, trivial⟩)
      ops st ⟨⟨wf, i⟩, T, rfl⟩ trivial).2

/-- nothing is leaked: when an open, tidy provider is closed (its `Close` visiting every scope of its
table, in any order), no disposal list — of any scope or of the provider — holds anything afterwards -/
theorem closeProvider_all_closed (beh : Beh) (order : List Nat → List Nat) (hord : ∀ l x, x ∈ l → x ∈ order l)
    (st : State) (L : Ledger st) (T : Tidy st) (hopen : st.disposed = false) :
    ∀ i, ¬ Tracked (closeProvider beh order st).1 i := by
  obtain ⟨l, hl⟩ := Option.isSome_iff_exists.1 (T.tableOpen hopen)
  have hprist := (ledger_closeProvider beh order st L).ledger.pristine
  revert hprist
  refine closeProvider_cases beh order st (M := fun r => (∀ x, r.1.nscopes ≤ x → dispOf r.1 x = []) → ∀ i, ¬ Tracked r.1 i)
    (fun h => absurd (h.symm.trans hopen) nofun) (fun _ f r1 r2 r3 hf h1 h2 h3 hprist => ?_)
  have hd1 : DrainedExcept (fun _ => False) r1.1 := h1 ▸ (drained_close beh order f).2 _ _ _ T.drained
  have e1 : r1.1.nscopes = st.nscopes :=
    h1 ▸ ((close_closeEff beh order f).2 { st with disposed := true, provScopes := none } _).nscopes
  have hall1 : ∀ c ∈ order (st.provScopes.getD []), (r1.1.scope c).disposed = true :=
    h1 ▸ closeChildren_disposes_all beh order _ f _ hf
  have hm1 : DispMono st r1.1 := h1 ▸ (closeScope_dispMono beh order f).2 { st with disposed := true, provScopes := none } _
  have hd2 : DrainedExcept (fun _ => False) r2.1 := h2 ▸ (drained_close beh order _).1 _ r1.1 rootScope hd1
  have e2 : CloseEff r1.1 r2.1 := h2 ▸ (close_closeEff beh order _).1 r1.1 rootScope
  have hroot2 : (r2.1.scope rootScope).disposed = true := h2 ▸ closeScope_disposes beh order r1.1 r1.1 rootScope
  have hm2 : DispMono r1.1 r2.1 := h2 ▸ (closeScope_dispMono beh order _).1 r1.1 rootScope
  have e3 : r3.1.scope = r2.1.scope ∧ r3.1.nscopes = r2.1.nscopes ∧ r3.1.provDisposables = none := by
    rw [h3, closeLoop_eq]; exact ⟨rfl, rfl, rfl⟩
  -- so every scope is closed now, hence drained; beyond `nscopes` the ledger knows the lists are empty
  have hclosed : ∀ x, x < st.nscopes → (r2.1.scope x).disposed = true := by
    intro x hx
    by_cases hxr : x = rootScope
    · subst hxr; exact hroot2
    · by_cases hdx : (st.scope x).disposed = true
      · exact hm2 x (hm1 x hdx)
      · refine hm2 x (hall1 x ?_)
        rw [hl]
        exact hord l x (T.registered l hl x (fun h => h) hx hxr (Bool.eq_false_iff.2 hdx))
  rintro i (⟨x, hx⟩ | hp)
  · have hx : i ∈ (r2.1.scope x).disposables.getD [] := e3.1 ▸ hx
    by_cases hxn : x < st.nscopes
    · rw [hd2 x (fun h => h) (hclosed x hxn)] at hx
      cases hx
    · have := hprist x (by show r3.1.nscopes ≤ x; rw [e3.2.1, e2.nscopes, e1]; exact Nat.le_of_not_lt hxn)
      have : (r2.1.scope x).disposables.getD [] = [] := e3.1 ▸ this
      rw [this] at hx; cases hx
  · have hp : i ∈ r3.1.provDisposables.getD [] := hp
    rw [e3.2.2] at hp
    cases hp

end Godi.Container
