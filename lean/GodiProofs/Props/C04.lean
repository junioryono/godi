import GodiProofs.Props.C07
import GodiModel.Analyzer
/-!
# C04 — Wiring fidelity: the registered constructor, the right arguments

* "exactly the constructor value that was registered" — M2 (`GodiModel/Analyzer.lean`): the analysis
  cache is keyed by (code pointer, signature) and may hand back a record analysed for *another*
  function value; `createInstance` overrides the value with the descriptor's own before calling.
* arguments — M5: `buildArgs` resolves each declared dependency, in declaration order, by exactly
  its (type, key) or by its (type, group); group members come in registration order.
* identities — a non-built-in (type, key) is answered "not found" iff no service descriptor is registered for it, or
  the descriptor registered for it answers so.
The registration-side half ("resolvable under exactly those identities": which descriptors an `Add*`
call with aliases / names / groups / multiple returns / result fields creates) is `C17_accept_exact`.
-/
namespace Godi.Props.C04
open Godi.Container

/-- The registered constructor: whatever the cache contains — in particular entries created by other
function values sharing the code pointer and signature — the value that is called is the one that
was registered -/
theorem registered_constructor_called (c : Godi.Analyzer.Cache) (k : Godi.Analyzer.Ctor) :
    (Godi.Analyzer.toCall (Godi.Analyzer.analyze c k).2 k).value = k.fnId := rfl

/-- while the cached record alone is *not* enough: two closures sharing code collide in the cache -/
theorem cache_alone_would_collide :
    ∃ c k, (Godi.Analyzer.analyze c k).2.value ≠ k.fnId :=
  ⟨[((7, 1), ⟨1, 100⟩)], ⟨7, 1, 200⟩, by decide⟩

/-- Arguments, one step: the next declared dependency is resolved by exactly its (type, key) — or its
(type, group) — through the constructing scope, and appended at its declaration position -/
theorem args_in_declaration_order (beh : Beh) (f : Nat) (st : State) (s : Nat) (dep : Dep) (deps : List Dep)
    (acc : List Val) (v : Val) (st1 : State)
    (h : (if dep.grp != 0 then getGroup beh f st s dep.ty dep.grp else resolve beh f st s dep.ty dep.key) = (st1, .ok v)) :
    buildArgs beh (f + 1) st s (dep :: deps) acc = buildArgs beh f st1 s deps (acc ++ [v]) := by
  conv => lhs; unfold buildArgs
  simp only [h]

/-- a failing required dependency stops construction with that error (nothing is invented) -/
theorem required_failure_propagates (beh : Beh) (f : Nat) (st : State) (s : Nat) (dep : Dep) (deps : List Dep)
    (acc : List Val) (e : Err) (st1 : State) (hreq : dep.optional = false)
    (h : (if dep.grp != 0 then getGroup beh f st s dep.ty dep.grp else resolve beh f st s dep.ty dep.key) = (st1, .error e)) :
    buildArgs beh (f + 1) st s (dep :: deps) acc = (st1, .error e) := by
  conv => lhs; unfold buildArgs
  simp only [h, hreq, Bool.false_and, Bool.false_eq_true, ↓reduceIte]

/-- Optional: the field stays zero when the error chain has no invocation or panic layer — the dependency is not
registered, but also: its scope is disposed, its constructor returned nil —; a registered dependency whose
constructor fails or panics (such a layer on the chain) fails the consumer -/
theorem optional_swallows_only_absence (beh : Beh) (f : Nat) (st : State) (s : Nat) (dep : Dep) (deps : List Dep)
    (acc : List Val) (e : Err) (st1 : State) (hopt : dep.optional = true)
    (h : (if dep.grp != 0 then getGroup beh f st s dep.ty dep.grp else resolve beh f st s dep.ty dep.key) = (st1, .error e)) :
    buildArgs beh (f + 1) st s (dep :: deps) acc =
      (if isConstruction e then (st1, .error e) else buildArgs beh f st1 s deps (acc ++ [.zero])) := by
  conv => lhs; unfold buildArgs
  simp only [h, hopt, Bool.true_and]
  cases isConstruction e <;> simp

/-- Group order: the members handed to a group field are the registered members in registration
order (`groupMembers` is a filter of the descriptor list, which is in registration order) -/
theorem group_members_in_registration_order (descs : List Desc) (ty grp : Nat) :
    (groupMembers descs ty grp).Sublist descs := List.filter_sublist

/-- … and a member that answers with an instance is appended to those before it -/
theorem group_resolution_keeps_order (beh : Beh) (f : Nat) (st : State) (s : Nat) (d : Desc) (ds : List Desc)
    (acc : List Inst) (i : Inst) (st1 : State) (h : resolveDesc beh f st s d = (st1, .ok (.inst i))) :
    resolveMembers beh (f + 1) st s (d :: ds) acc = resolveMembers beh f st1 s ds (acc ++ [i]) := by
  conv => lhs; unfold resolveMembers
  simp only [h]

/-- Identities: a (type, key) that is not built in is answered with exactly the chain `[resolution, notFound]` when no
service descriptor is registered under it, or when the descriptor registered under it answers with that chain -/
theorem not_found_iff_unregistered (beh : Beh) (st : State) (s f ty key : Nat)
    (hopen : (st.scope s).disposed = false) (hnb : ¬ (key = 0 ∧ ty < 3)) :
    resolve beh (f + 1) st s ty key = (st, .error [.resolution, .notFound]) ↔
      findService st.descs ty key = none ∨
      (∃ t, findService st.descs ty key = some t ∧ resolveDesc beh f st s t = (st, .error [.resolution, .notFound])) := by
  rcases resolve_succ beh st s ty key with ⟨d, hd, e⟩ | ⟨r, e, ⟨_, hdisp⟩ | ⟨_, hb⟩ | ⟨rfl, hf, _⟩⟩
  · rw [e, hd]; simp
  · rw [hopen] at hdisp; cases hdisp
  · exact absurd hb hnb
  · rw [e, hf]; simp

def ex : List Desc :=
  [{ id := 0, ident := ⟨3, 101, 1⟩, life := .transient, ctor := 1, kind := .plain, deps := [] },
   { id := 1, ident := ⟨3, 102, 1⟩, life := .transient, ctor := 2, kind := .plain, deps := [] },
   { id := 2, ident := ⟨4, 7, 0⟩, life := .transient, ctor := 3, kind := .plain, deps := [] },
   { id := 3, ident := ⟨5, 0, 0⟩, life := .transient, ctor := 4, kind := .plain,
     deps := [{ ty := 3, grp := 1 }, { ty := 4, key := 7 }, { ty := 9, optional := true }] }]
/-- group in registration order, keyed dependency, absent optional dependency left zero -/
example : (scopeGet {} (buildRuntime {} ex []).1 0 5 0).1.log =
    [.ctor 0 1 1 0 [] [1], .ctor 1 2 1 0 [] [2], .ctor 2 3 1 0 [] [3],
     .ctor 3 4 1 0 [.group [1, 2], .inst 3, .zero] [4]] := by decide

end Godi.Props.C04
