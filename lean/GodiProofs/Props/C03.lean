import GodiProofs.Container.Instances
import GodiProofs.Container.TransientFresh
import GodiProofs.Container.HypSound
/-!
# C03 — Transient: a fresh instance for every resolution and every injection site
-/
namespace Godi.Props.C03
open Godi.Container

/-- Never cached: resolving a transient registration always goes to `createInstance`, whatever the
caches hold — by type, by key, as a group member, as an argument -/
theorem always_constructs (beh : Beh) (st : State) (s f : Nat) (d : Desc) (hl : d.life = .transient) :
    resolveDesc beh (f + 1) st s d = createInstance beh f st s d := by
  unfold resolveDesc; simp [hl]

/-- … and storing it leaves the scope's cache untouched -/
theorem never_enters_cache (st : State) (s : Nat) (d : Desc) (k : Ident) (v : Val) (hl : d.life = .transient) :
    ((setInstance st s d k v).1.scope s).instances = (st.scope s).instances := by
  unfold setInstance
  simp only [hl]
  exact track_instances st s v d.disp

/-- the instance counter never decreases, whatever is resolved -/
theorem counter_monotone (beh : Beh) (st : State) (s ty key : Nat) (wf : WF st.descs) :
    st.next ≤ (scopeGet beh st s ty key).1.next := (resolve_ext beh _ st s ty key wf).next

/-- Fresh: a successfully constructed (plain) transient instance gets an id that is at least the counter's
value before the call and below its value afterwards. (`construct_fresh` says the same of every constructor,
whatever the lifetime and the number of its outputs.) -/
theorem fresh_instance (beh : Beh) (f : Nat) (st : State) (s : Nat) (d : Desc) (wf : WF st.descs) (hd : d ∈ st.descs)
    (hl : d.life = .transient) (hk : d.kind = .plain) (i : Inst)
    (h : (createInstance beh (f + 1) st s d).2 = .ok (.inst i)) :
    st.next ≤ i ∧ i < (createInstance beh (f + 1) st s d).1.next := by
  have hA := buildArgs_ext beh f st s d.deps [] wf
  rw [createInstance_succ] at h ⊢
  simp only [hk] at h ⊢
  generalize buildArgs beh f st s d.deps [] = ra at hA h ⊢
  split at h
  · cases h
  next args _ =>
    have hc := construct_fresh beh ra.1 s d args h
    exact ⟨Nat.le_trans hA.next hc.1, hc.2⟩

/-- Never stored anywhere, over Build and all histories: for every registry with the collection's
structural guarantees, every constructor behaviour, every creation order with which Build succeeds and
every history of resolutions, group resolutions, scope creations and closes afterwards, neither the
singleton table nor the cache of any scope holds an instance whose recorded producer (`instMeta`) is a
constructor of a transient registration. `hz`: constructor id 0 is no transient constructor — it is the
default entry `(0, 0)` of `instMeta`, which registered instance values keep (`ctorZeroB` in `GodiModel/Hyp.lean`). -/
theorem transient_instances_never_stored (beh : Beh) (descs : List Desc) (order : List Nat) (ops : List Op)
    (wf : WF descs) (rw' : RegWF descs) (hz : ¬ TransCtor descs 0)
    (hok : (buildRuntime beh descs order).2 = .ok ()) :
    (∀ k i, lookup (run beh (buildRuntime beh descs order).1 ops).singletons k = some (.inst i) →
      ¬ TransCtor descs ((run beh (buildRuntime beh descs order).1 ops).instMeta i).1) ∧
    (∀ s k i, lookup (((run beh (buildRuntime beh descs order).1 ops).scope s).instances.getD []) k = some (.inst i) →
      ¬ TransCtor descs ((run beh (buildRuntime beh descs order).1 ops).instMeta i).1) := by
  have tc := (tcInvariant beh ⟨wf, rw'⟩).build_run (tc_start hz) order ops hok
  exact ⟨fun k i h => (tc.tbl k _ h).1, fun s k i h => (tc.cache s k _ h).1⟩

/-- the instances a constructor produces carry that constructor in `instMeta`, which is what the theorem above
reads -/
theorem produced_by (st : State) (k c n d s : Nat) (args : List Val) (outs : List Inst) (i : Inst)
    (h1 : st.next ≤ i) (h2 : i < st.next + k) :
    ((logEv (alloc st k c n) (.ctor d c n s args outs)).instMeta i).1 = c := by
  rw [instMeta_alloc_log st k c n d s args outs i h1 h2]

def ex : List Desc :=
  [{ id := 0, ident := ⟨3, 0, 0⟩, life := .transient, ctor := 1, kind := .plain, deps := [] },
   { id := 1, ident := ⟨4, 0, 0⟩, life := .scoped, ctor := 2, kind := .plain, deps := [{ ty := 3 }, { ty := 3 }] }]
/-- a consumer taking the transient twice gets two different instances; a direct request a third -/
example : (scopeGet {} (scopeGet {} (buildRuntime {} ex []).1 0 4 0).1 0 3 0).1.log =
    [.ctor 0 1 1 0 [] [1], .ctor 0 1 2 0 [] [2], .ctor 1 2 1 0 [.inst 1, .inst 2] [3], .ctor 0 1 3 0 [] [4]] := by decide

/-- the hypotheses of `transient_instances_never_stored` are satisfiable -/
example : WF ex ∧ RegWF ex ∧ ¬ TransCtor ex 0 ∧
    (match (buildRuntime {} ex []).2 with | .ok _ => true | .error _ => false) = true := by
  have h := hyps_of_check (descs := ex) (by decide)
  exact ⟨h.1, h.2.1, h.2.2.2.2.2.2.2.1, by decide⟩

end Godi.Props.C03
