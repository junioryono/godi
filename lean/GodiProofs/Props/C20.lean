import GodiProofs.Collection.Reach
/-!
# C20 — modules are transparent groupings of registration calls

"Registering services through any nesting of modules is equivalent to issuing the same Add and
Remove calls directly, left to right: the resulting collection and any provider built from it are
indistinguishable. The first failing registration stops processing, registrations made before it
stay, and its error is returned wrapped once per enclosing named module (outermost first) with the
original cause still reachable through errors.Is/As; nil entries are ignored."

Quantification: every module tree `m : Mod` / builder list `ms : Items` (arbitrary nesting, `nil`
entries = `Items.skip`, `Remove`/`RemoveKeyed`/`Add*` leaves with arbitrary requests, failing
entries anywhere), from every collection `c`. Model: `GodiModel/Module.lean` (M3').
`runOps c ops` = the direct calls left to right, stopping at the first failure, which it reports
with its position; `annotItems [] ms` = the leaves of the tree left to right, each with the names of
its enclosing modules; `moduleError` wraps the direct error with the names at that position.
-/
namespace Godi.Props.C20
open Godi.Coll

/-- `AddModules(ms...)` = the flattened direct calls: same collection, and the error is the direct
call's error wrapped once per module enclosing the first failing leaf, outermost first (no error iff
no direct call fails). -/
theorem C20_flatten (c : Coll) (ms : Items) :
    addModules c ms =
      ((runOps c (flattenItems ms)).1, moduleError (annotItems [] ms) (runOps c (flattenItems ms)).2) := by
  have h1 := runAnn_items ms c []
  have h2 := runAnn_runOps (annotItems [] ms) c
  rw [h1, wrapPath_nil_map] at h2
  exact h2

/-- the same for calling one module (a `ModuleOption` built by `NewModule` or a leaf builder) -/
theorem C20_flatten_mod (c : Coll) (m : Mod) :
    runMod c m = ((runOps c (flattenMod m)).1, moduleError (annotMod [] m) (runOps c (flattenMod m)).2) := by
  have h1 := runAnn_mod m c []
  have h2 := runAnn_runOps (annotMod [] m) c
  rw [h1, wrapPath_nil_map] at h2
  exact h2

/-- the direct calls: everything before the failing one is applied, nothing after it; the failing
call is the first that fails -/
theorem C20_prefix_applied (ops : List Op) : ∀ (c c' : Coll) (i : Nat) (e : Err),
    runOps c ops = (c', some (i, e)) →
    ∃ (o : Op) (cmid : Coll), ops[i]? = some o ∧ runOps c (ops.take i) = (cmid, none) ∧ step cmid o = (c', some e) := by
  induction ops with
  | nil => intro c c' i e h; cases h
  | cons o rest ih =>
    intro c c' i e h
    unfold runOps at h
    cases hs : step c o with
    | mk c1 r =>
      rw [hs] at h
      cases r with
      | some e1 =>
        injection h with h1 h2
        injection h2 with h2
        injection h2 with h3 h4
        subst h1 h3 h4
        exact ⟨o, c, rfl, rfl, hs⟩
      | none =>
        simp only [] at h
        cases hr : runOps c1 rest with
        | mk c2 r2 =>
          rw [hr] at h
          cases r2 with
          | none => cases h
          | some je =>
            obtain ⟨j, e2⟩ := je
            injection h with h1 h2
            injection h2 with h2
            injection h2 with h3 h4
            subst h1 h3 h4
            obtain ⟨o', cmid, g1, g2, g3⟩ := ih c1 c2 j e2 hr
            refine ⟨o', cmid, by simpa using g1, ?_, g3⟩
            simp only [List.take_succ_cons, runOps, hs, g2]

/-- `ModuleError` layers: exactly one per enclosing module, in order, and below them the untouched
chain of the original error — so everything `errors.Is`/`errors.As` find in the direct error they
also find in the module's error. -/
theorem C20_cause_reachable (path : List String) (e : Err) :
    (∃ layers : List Err, (wrapPath path e).chain = layers ++ e.chain ∧
        layers.map Err.moduleName? = path.map some) ∧
    (∀ x ∈ e.chain, x ∈ (wrapPath path e).chain) ∧ e ∈ (wrapPath path e).chain := by
  obtain ⟨ls, h1, h2⟩ := chain_wrapPath path e
  refine ⟨⟨ls, h1, h2⟩, ?_, ?_⟩
  · intro x hx; rw [h1]; exact List.mem_append.2 (Or.inr hx)
  · rw [h1]; exact List.mem_append.2 (Or.inr (mem_chain_self e))

/-- `nil` entries are ignored -/
theorem C20_nil_ignored (c : Coll) (ms : Items) :
    addModules c (.skip ms) = addModules c ms ∧ flattenItems (.skip ms) = flattenItems ms :=
  ⟨rfl, rfl⟩

/-- a module without a failing entry returns no error, and a module whose flattening fails returns
an error: verdicts coincide -/
theorem C20_verdict (c : Coll) (ms : Items) :
    (addModules c ms).2 = none ↔ (runOps c (flattenItems ms)).2 = none := by
  rw [C20_flatten]
  cases (runOps c (flattenItems ms)).2 with
  | none => simp [moduleError]
  | some ie => obtain ⟨i, e⟩ := ie; simp [moduleError]

/-- the collection's heap and references are the same after `AddModules` as after the flattened
direct calls; Build does not occur in the statement: that a provider built afterwards is the same
follows because Build reads nothing else -/
theorem C20_same_provider (h : Heap) (r : CollRef) (ms : Items) :
    let viaModules := h.modify r (fun c => addModules c ms)
    let direct := h.modify r (fun c => ((runOps c (flattenItems ms)).1, (none : Option Err)))
    viaModules.1 = direct.1 ∧ viaModules.2.1 = direct.2.1 := by
  constructor <;> simp [Heap.modify, C20_flatten]

/-! ### non-vacuity: a tree with nested modules of the same name, a nil entry, a Remove entry, and
a failing entry in the middle of the innermost module -/
def a4 (n : Nat) : Op := .add { ctor := n, primary := 4, rets := [4] }
def a5 (n : Nat) : Op := .add { ctor := n, primary := 5, rets := [5] }

def tree : Items :=
  .cons (.node "a" (.skip (.cons (.op (a4 1)) (.cons (.node "a" (.cons (.op (.rm 4)) (.cons (.op (a5 2))
    (.cons (.op (a5 3)) (.cons (.op (a4 4)) .nil))))) (.cons (.op (a4 5)) .nil))))) .nil

example : (flattenItems tree).length = 6 := by decide +kernel
example : (runOps empty (flattenItems tree)).2.map (·.1) = some 3 := by decide +kernel
example : pathAt (annotItems [] tree) 3 = ["a", "a"] := by decide +kernel
example : ((addModules empty tree).2.map Err.chain).map (·.map Err.moduleName?) =
    some [some "a", some "a", none] := by decide +kernel
example : (toSlice (addModules empty tree).1).map (·.ctor) = [2] := by decide +kernel

end Godi.Props.C20
