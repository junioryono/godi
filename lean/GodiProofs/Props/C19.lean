import GodiProofs.Props.C06
import GodiProofs.Props.C05
import GodiProofs.Graph.Remove
import GodiProofs.Graph.AddRollback
import GodiProofs.Graph.Transitive
import GodiProofs.Graph.Depths
import GodiProofs.Graph.DepthsComplete
/-!
# C19 — The dependency graph always agrees with a plain digraph model

`abs g = ⟨g.nodes, g.edges⟩` is the plain reference digraph. The structural invariant `Base` holds
in the empty graph and is preserved by every mutation proved below; `Synced` (degree and dependents
fields agree with the adjacency lists) is re-established by every operation that ends with
`updateDegrees`, for every iteration order of the `edges` map. Under `Base ∧ Synced` every query
equals the plain digraph's answer.

Proved here: the immediate `AddProvider` (accepted: the digraph update; rejected: the graph is the
digraph it was; accepted exactly when the updated digraph is acyclic), the deferred add (+ the documented
`DetectCycles`), `RemoveProvider`, `Clear`, all queries, cache freshness of the sort. The exhaustive
correspondence stream (every op sequence of length ≤ 3 over 3 identities, all queries after every
step) ties these definitions to graph.go on every run.
-/
namespace Godi.Props.C19
open Godi.Kahn (Key)
open Godi.Graph Godi.Spec

theorem empty_ok : Base ({} : Graph) ∧ Synced ({} : Graph) := ⟨base_empty, synced_empty⟩

/-- `Clear` gives the empty digraph, with both invariants -/
theorem clear_refines (g : Graph) : abs (clear g) = ⟨[], fun _ => []⟩ ∧ Base (clear g) ∧ Synced (clear g) :=
  ⟨rfl, base_empty, synced_empty⟩

/-- deferred add: the node and its dependencies exist afterwards, its adjacency list is replaced by
the new dependency list, every other adjacency list is untouched -/
theorem addDeferred_refines (g : Graph) (b : Base g) (k : Key) (p : Nat) (ds : List Key) :
    Base (addProviderDeferred g k p ds) ∧
    (addProviderDeferred g k p ds).edges = upd g.edges k ds ∧
    (∀ x, x ∈ (addProviderDeferred g k p ds).nodes ↔ x ∈ g.nodes ∨ x = k ∨ x ∈ ds) :=
  addProviderDeferred_spec g b k p ds

/-- the documented completion: `DetectCycles` leaves the digraph as it is and brings every derived
field in sync, for every iteration order of the two maps -/
theorem detect_completes (g : Graph) (b : Base g) (eorder norder : List Key) (he : eorder.Perm g.ekeys) :
    Base (detectCyclesWith g eorder norder).1 ∧ Synced (detectCyclesWith g eorder norder).1 ∧
    abs (detectCyclesWith g eorder norder).1 = abs g := by
  obtain ⟨h1, h2, h3, h4⟩ := detectCyclesWith_base_synced g eorder norder he b
  exact ⟨h1, h2, by simp [abs, h3, h4]⟩

/-- `Size` is the length of the node list -/
theorem size_eq (g : Graph) : size g = (abs g).nodes.length := rfl
/-- `HasNode` is membership in it -/
theorem hasNode_eq (g : Graph) (k : Key) : hasNode g k = decide (k ∈ (abs g).nodes) := rfl

/-- `GetDependencies` of a known node is its adjacency list, of an unknown one nothing -/
theorem dependencies_eq (g : Graph) (b : Base g) (k : Key) :
    getDependencies g k = if k ∈ g.nodes then some ((abs g).edge k) else none := by
  unfold getDependencies
  split
  next h => rw [b.deps k h]; rfl
  next h => rfl

/-- the dependents of `q` are exactly the nodes that list `q` among their dependencies, with multiplicity -/
theorem dependents_eq (g : Graph) (s : Synced g) (q k : Key) (hq : q ∈ g.nodes) (hk : k ∈ g.nodes) :
    ∃ l, getDependents g q = some l ∧ l.count k = ((abs g).edge k).count q ∧ ∀ x ∈ l, x ∈ g.nodes := by
  refine ⟨g.ndependents q, by simp [getDependents, hq], s.cons q hq k hk, s.depnSub q hq⟩

/-- leaves: nodes without dependencies -/
theorem leaves_eq (g : Graph) (s : Synced g) (k : Key) :
    k ∈ getLeaves g ↔ k ∈ g.nodes ∧ (abs g).edge k = [] := by
  unfold getLeaves
  simp only [List.mem_filter, beq_iff_eq]
  refine and_congr_right fun hk => ?_
  rw [s.outDeg k hk, List.length_eq_zero_iff]
  rfl

/-- roots: nodes nobody depends on -/
theorem roots_eq (g : Graph) (s : Synced g) (k : Key) :
    k ∈ getRoots g ↔ k ∈ g.nodes ∧ ∀ q ∈ g.nodes, k ∉ (abs g).edge q := by
  unfold getRoots
  simp only [List.mem_filter, beq_iff_eq]
  refine and_congr_right fun hk => ?_
  rw [s.inDeg k hk, List.length_eq_zero_iff]
  constructor
  · intro hnil q hq hmem
    have := (s.mem_dependents_iff hk hq).2 hmem
    rw [hnil] at this; cases this
  · intro hno
    apply List.eq_nil_iff_forall_not_mem.2
    intro x hx
    exact hno x (s.depnSub k hk x hx) ((s.mem_dependents_iff hk (s.depnSub k hk x hx)).1 hx)

/-- `DetectCycles`, when it recomputes, gives the plain digraph's answer (this is `Props/C05.detectCycles_exact`);
the same for the topological order is `Props/C06.topo_valid`, `topo_complete`, `topo_fails_on_cycle` -/
theorem acyclicity_eq (g : Graph) (b : Base g) (hd : g.cycleDirty = true) (eorder norder : List Key)
    (he : eorder.Perm g.ekeys) (hn : norder.Perm g.nodes) :
    (detectCyclesWith g eorder norder).2 = .ok ↔ ¬ HasCycle (abs g) :=
  Godi.Props.C05.detectCycles_exact g b hd eorder norder he hn

/-- the deferred add, `Clear` and the removal of a known node mark both caches dirty (the immediate add is not part
of this statement) … -/
theorem mutations_invalidate (g : Graph) (k : Key) (p : Nat) (ds : List Key) :
    (addProviderDeferred g k p ds).sortedDirty = true ∧ (addProviderDeferred g k p ds).cycleDirty = true ∧
    (clear g).sortedDirty = true ∧ (clear g).cycleDirty = true ∧
    (k ∈ g.nodes → (removeProvider g k).sortedDirty = true ∧ (removeProvider g k).cycleDirty = true) := by
  refine ⟨rfl, rfl, rfl, rfl, ?_⟩
  intro hk
  unfold removeProvider
  simp [hk]

/-- … and the only way the sort cache becomes clean is by storing a freshly computed valid order -/
theorem sort_cache_fresh (g : Graph) (b : Base g) (s : Synced g) (norder : List Key) (hp : norder.Perm g.nodes)
    (hd : g.sortedDirty = true) (g' : Graph) (l : List Key) (h : topologicalSortWith g norder = (g', some l)) :
    g'.sorted = some l ∧ g'.sortedDirty = false ∧ Godi.Props.C06.ValidOrder g l ∧
    (topologicalSortWith g' norder).2 = some l := by
  have hv := Godi.Props.C06.topo_valid g b s norder hp hd g' l h
  unfold topologicalSortWith at h
  rw [hd] at h
  simp only [] at h
  split at h
  next l' hs =>
    injection h with h1 h2; injection h2 with h2; subst h2; subst h1
    refine ⟨rfl, rfl, hv, ?_⟩
    unfold topologicalSortWith
    simp
  next => cases h

/-- An accepted add refines "replace `k`'s adjacency list, create missing nodes" -/
theorem add_accepted_refines (g : Graph) (b : Base g) (k : Key) (p : Nat) (ds : List Key)
    (h : (addProvider g k p ds).2 = .ok) :
    Base (addProvider g k p ds).1 ∧ Synced (addProvider g k p ds).1 ∧
    (addProvider g k p ds).1.edges = upd g.edges k ds ∧
    (∀ x, x ∈ (addProvider g k p ds).1.nodes ↔ x ∈ g.nodes ∨ x = k ∨ x ∈ ds) :=
  addProvider_accepted g b k p ds h

/-- A rejected add leaves the digraph as it was (same node set, same adjacency function), with the
invariant and all derived fields in sync -/
theorem add_rejected_unchanged (g : Graph) (b : Base g) (k : Key) (p : Nat) (ds : List Key)
    (h : (addProvider g k p ds).2 ≠ .ok) :
    Base (addProvider g k p ds).1 ∧ Synced (addProvider g k p ds).1 ∧
    (addProvider g k p ds).1.edges = g.edges ∧
    (∀ x, x ∈ (addProvider g k p ds).1.nodes ↔ x ∈ g.nodes) :=
  addProvider_rejected g b k p ds h

/-- The decision: on an acyclic graph the add is accepted exactly when the updated digraph is acyclic -/
theorem add_accepts_iff_acyclic (g : Graph) (b : Base g) (k : Key) (p : Nat) (ds : List Key)
    (hacyc : ∀ c, ¬ Reach g.edges c c) :
    (addProvider g k p ds).2 = .ok ↔ ∀ c, ¬ Reach (upd g.edges k ds) c c :=
  addProvider_ok_iff g b k p ds hacyc

/-- accepted or rejected, the immediate add keeps `Base ∧ Synced`: with `empty_ok`, `clear_refines` and `remove_refines`,
every state reached by immediate adds, removes and `Clear` satisfies both (a deferred add keeps `Base`; `Synced` is back
after `detect_completes`) -/
theorem add_preserves (g : Graph) (b : Base g) (k : Key) (p : Nat) (ds : List Key) :
    Base (addProvider g k p ds).1 ∧ Synced (addProvider g k p ds).1 := by
  by_cases h : (addProvider g k p ds).2 = .ok
  · exact ⟨(addProvider_accepted g b k p ds h).1, (addProvider_accepted g b k p ds h).2.1⟩
  · exact ⟨(addProvider_rejected g b k p ds h).1, (addProvider_rejected g b k p ds h).2.1⟩

/-- a graph grown by immediate adds and removes only is acyclic throughout (with `remove_keeps_acyclic`) -/
theorem add_keeps_acyclic (g : Graph) (b : Base g) (k : Key) (p : Nat) (ds : List Key)
    (hacyc : ∀ c, ¬ Reach g.edges c c) : ∀ c, ¬ Reach (addProvider g k p ds).1.edges c c := by
  by_cases h : (addProvider g k p ds).2 = .ok
  · rw [(addProvider_accepted g b k p ds h).2.2.1]
    exact (addProvider_ok_iff g b k p ds hacyc).1 h
  · rw [(addProvider_rejected g b k p ds h).2.2.1]
    exact hacyc

/-- Remove of a known node refines "delete the node and every edge pointing at it" (for an unknown node see
`remove_unknown_noop`): afterwards the invariant holds, every derived field is in sync, the node is gone, every
adjacency list has lost it and nothing else changed -/
theorem remove_refines (g : Graph) (b : Base g) (k : Key) (hk : k ∈ g.nodes) :
    Base (removeProvider g k) ∧ Synced (removeProvider g k) ∧
    (∀ x, x ∈ (removeProvider g k).nodes ↔ x ∈ g.nodes ∧ x ≠ k) ∧
    (∀ x, (removeProvider g k).edges x = if x = k then [] else (g.edges x).filter (· ≠ k)) :=
  removeProvider_refines g b k hk

/-- removing an unknown node changes nothing -/
theorem remove_unknown_noop (g : Graph) (k : Key) (hk : k ∉ g.nodes) : removeProvider g k = g := by
  unfold removeProvider; simp [hk]

/-- removing a provider never creates a cycle -/
theorem remove_keeps_acyclic (g : Graph) (b : Base g) (k : Key)
    (hacyc : ∀ c, ¬ Reach g.edges c c) : ∀ c, ¬ Reach (removeProvider g k).edges c c := by
  by_cases hk : k ∈ g.nodes
  · -- every edge that is left was an edge before
    have he := (removeProvider_refines g b k hk).2.2.2
    refine fun c hc => hacyc c (hc.mono fun x y hy => ?_)
    rw [he x] at hy
    split at hy
    · cases hy
    · exact (List.mem_filter.1 hy).1
  · rw [remove_unknown_noop g k hk]; exact hacyc

/-- `GetTransitiveDependencies` returns the plain digraph's answer: exactly the nodes reachable from `k` by one or more
edges, `k` itself excepted (it is marked visited before the walk, so a cycle through `k` does not list it), each once —
with the fuel the model runs on, for every graph that satisfies the structural invariant (`Graph/Transitive.lean`) -/
theorem transitive_dependencies_eq (g : Graph) (b : Base g) (k : Key) :
    (getTransitiveDependencies g k).Nodup ∧
    ∀ x, x ∈ getTransitiveDependencies g k ↔ (x ≠ k ∧ Reach (abs g).edge k x) :=
  transitive_spec g b k

/-- `CalculateDepths`, soundness half: on a graph that satisfies the invariants — cyclic or not,
whatever the iteration order and the fuel — a depth `m ≥ 0` assigned to `k` is witnessed by a chain of exactly `m`
dependency edges from `k` down to a node without dependencies; every other node keeps `-1`. The maximality (on an
acyclic graph the depth is the longest such chain) is `depths_are_longest_chains` below. -/
theorem depths_partial (g : Graph) (b : Base g) (s : Synced g) (norder : List Key) (hn : ∀ k ∈ norder, k ∈ g.nodes) (k : Key) :
    (calculateDepthsWith g norder).depth k = -1 ∨
    ∃ m : Nat, (calculateDepthsWith g norder).depth k = (m : Int) ∧ Chain (abs g).edge k m :=
  depths_witnessed g b s norder hn k

/-- `CalculateDepths` on an acyclic graph, full statement (`Graph/DepthsComplete.lean`): for every iteration order of
the node map, with the fuel the model runs on, the depth of a node bounds the length of every dependency chain from it
down to a node without dependencies and, unless it is `-1`, is the length of one of them. That `-1` does not occur,
so that the depth is the length of the longest chain, which is what the plain digraph says, is
`Graph.depths_longest`. (Chains are shorter than the number of nodes, so the guard `depth < len(nodes)` never stops
a relaxation; the potential Σ (n − 1 − depth) + |queue| drops with every iteration, so `n² + n + 1` iterations suffice;
a node outside the queue is relaxed.) -/
theorem depths_are_longest_chains (g : Graph) (b : Base g) (s : Synced g) (hac : ¬ HasCycle (abs g))
    (norder : List Key) (hp : norder.Perm g.nodes) (k : Key) (hk : k ∈ g.nodes) :
    (∀ m', Chain (abs g).edge k m' → (m' : Int) ≤ (calculateDepthsWith g norder).depth k) ∧
    ((calculateDepthsWith g norder).depth k = -1 ∨
      ∃ m : Nat, (calculateDepthsWith g norder).depth k = (m : Int) ∧ Chain (abs g).edge k m) :=
  depths_exact g b s ((acyclic_iff b).2 hac) norder hp k hk

/-- non-vacuity: 3 → 2 → 1 and 3 → 1: depths 1:0, 2:1, 3:2 (the longer chain) -/
example : let g := (detectCycles (addProviderDeferred (addProviderDeferred (addProviderDeferred {} 3 30 [2, 1]) 2 20 [1]) 1 10 [])).1
    ((calculateDepths g).depth 1, (calculateDepths g).depth 2, (calculateDepths g).depth 3) = (0, 1, 2) := by decide

/-- non-vacuity: 3 → 2 → 1 → 3 is a ring with a tail 1 → 4: from 3 everything but 3 itself -/
example : let g := (detectCycles (addProviderDeferred (addProviderDeferred (addProviderDeferred {} 3 30 [2]) 2 20 [1]) 1 10 [3, 4])).1
    getTransitiveDependencies g 3 = [2, 1, 4] ∧ getTransitiveDependencies g 4 = [] ∧ getTransitiveDependencies g 9 = [] := by decide

/-- non-vacuity of `add_rejected_unchanged`, on the D14 witness: node 1 exists as a placeholder
(2 depends on it); adding 1 → 2 closes a cycle, is rejected, and the graph is as before -/
example : let g := (addProvider {} 2 20 [1]).1
    let r := addProvider g 1 10 [2]
    r.2 = .cycle 1 (some [1, 2, 1]) ∧ r.1.nodes = g.nodes ∧ r.1.edges 1 = g.edges 1 ∧ r.1.edges 2 = g.edges 2 ∧
    (topologicalSort r.1).2 = some [1, 2] := by decide

end Godi.Props.C19
