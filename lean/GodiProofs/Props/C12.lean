import GodiProofs.Container.Close
import GodiProofs.Container.CloseReport
import GodiProofs.Container.CloseTwice
/-!
# C12 — Close is complete under errors, reports them, and is idempotent (sequential clauses)

`beh.close c n = true` means: `Close()` of what the `n`-th invocation of constructor `c` produced
returns an error. All statements hold for every such `beh`, i.e. every subset of failing instances.
The concurrent clause (several goroutines and the cancellation watcher calling Close at once:
exactly one passes the CAS, the others wait and return nil) is `C12_idempotent_conc` in M6.
-/
namespace Godi.Props.C12
open Godi.Container

/-- Attempts all: the drain loop closes every instance of the list, in order, whatever fails -/
theorem attempts_all (beh : Beh) (owner : Nat) (l : List Inst) (st : State) :
    (closeLoop beh owner st l).1.log = st.log ++ l.map (closedEv beh st owner) := by
  rw [closeLoop_eq]

/-- Error iff: it reports an error exactly when one of them failed -/
theorem loop_error_iff (beh : Beh) (owner : Nat) (l : List Inst) (st : State) :
    (closeLoop beh owner st l).2 = true ↔ ∃ i ∈ l, beh.close (st.instMeta i).1 (st.instMeta i).2 = true :=
  closeLoop_err beh owner l st

/-- a scope's Close reports an error iff a descendant's Close did or one of its own instances failed -/
theorem scope_error_iff (beh : Beh) (order : List Nat → List Nat) (f : Nat) (st : State) (s : Nat)
    (h : (st.scope s).disposed = false) :
    let r1 := closeChildren beh order f (takeChildren (markDisposed st s) s) (order ((st.scope s).children.getD []))
    ((closeScope beh order (f + 1) st s).2 = true ↔
      r1.2 = true ∨ ∃ i ∈ (r1.1.scope s).disposables.getD [], beh.close (r1.1.instMeta i).1 (r1.1.instMeta i).2 = true) := by
  intro r1
  unfold closeScope
  simp only [h, Bool.false_eq_true, ↓reduceIte, Bool.or_eq_true, closeLoop_err, List.mem_reverse]
  exact Iff.rfl

/-- children: the error flags of the children are or-ed, none is dropped -/
theorem children_error_iff (beh : Beh) (order : List Nat → List Nat) (f : Nat) (st : State) (c : Nat) (rest : List Nat) :
    (closeChildren beh order (f + 1) st (c :: rest)).2 =
      ((closeScope beh order f st c).2 || (closeChildren beh order f (closeScope beh order f st c).1 rest).2) := by
  conv => lhs; unfold closeChildren

/-- Idempotent: a second Close returns nil (no error) and does nothing at all -/
theorem scope_close_idempotent (beh : Beh) (order : List Nat → List Nat) (f : Nat) (st : State) (s : Nat)
    (h : (st.scope s).disposed = true) : closeScope beh order f st s = (st, false) :=
  closeScope_of_disposed beh order f st s h

/-- the same for `Provider.Close` -/
theorem provider_close_idempotent (beh : Beh) (order : List Nat → List Nat) (st : State) (h : st.disposed = true) :
    closeProvider beh order st = (st, false) :=
  closeProvider_of_disposed beh order st h

/-- Close twice = close once, composed: whatever state the first `Provider.Close` ran in (any scope tree, any
failing `Close()` methods, any iteration order), a second `Provider.Close` returns nil, changes nothing and
logs nothing — nothing is closed a second time -/
theorem provider_close_twice_is_once (beh : Beh) (order order' : List Nat → List Nat) (st : State) :
    closeProvider beh order' (closeProvider beh order st).1 = ((closeProvider beh order st).1, false) :=
  closeProvider_twice beh order order' st

/-- the same for a scope, for every fuel and order of the second call -/
theorem scope_close_twice_is_once (beh : Beh) (order order' : List Nat → List Nat) (f f' : Nat) (st : State) (s : Nat) :
    closeScope beh order' f' (closeScope beh order (f + 1) st s).1 s = ((closeScope beh order (f + 1) st s).1, false) :=
  closeScope_twice beh order order' f f' st s

/-- the first Close of an open scope releases its cache -/
theorem closed_is_disposed (beh : Beh) (order : List Nat → List Nat) (f : Nat) (st : State) (s : Nat)
    (h : (st.scope s).disposed = false) :
    (((closeScope beh order (f + 1) st s).1).scope s).instances = none :=
  closeScope_instances beh order f st s h

/-- Reports exactly the failures, the whole subtree: `scope.Close` — for every scope tree, every depth, every
iteration order of the child tables, every set of failing `Close()` methods and every amount of fuel — appends
only `closed` events to the log and returns an error exactly when one of the events it appended (its own
instances' or any descendant's) records a `Close()` that failed -/
theorem scope_close_reports_exactly_the_failures (beh : Beh) (order : List Nat → List Nat) (f : Nat) (st : State) (s : Nat) :
    ∃ evs, (closeScope beh order f st s).1.log = st.log ++ evs ∧
      (∀ e ∈ evs, ∃ o i ok, e = Event.closed o i ok) ∧
      ((closeScope beh order f st s).2 = true ↔ ∃ o i, Event.closed o i false ∈ evs) :=
  (close_reported beh order f).1 st s

/-- the same for `provider.Close`: every tracked scope, the root scope and the singletons -/
theorem provider_close_reports_exactly_the_failures (beh : Beh) (order : List Nat → List Nat) (st : State) :
    ∃ evs, (closeProvider beh order st).1.log = st.log ++ evs ∧
      (∀ e ∈ evs, ∃ o i ok, e = Event.closed o i ok) ∧
      ((closeProvider beh order st).2 = true ↔ ∃ o i, Event.closed o i false ∈ evs) :=
  closeProvider_reported beh order st

/-- no failing `Close()` among the instances: no error; all failing: both are still attempted -/
example : (closeLoop { close := fun c _ => c == 2 } 7 {} [5, 6]).2 = false := by decide
example : (closeLoop { close := fun _ _ => true } 7 {} [5, 6]).1.log = [.closed 7 5 false, .closed 7 6 false] := by decide

-- non-vacuity of `scope_close_reports_exactly_the_failures`: the failing instance belongs to a grandchild (scope 3);
-- Close of scope 1 reports the error and logs exactly that one event; without the failure it reports nothing
example :
    let beh : Beh := { close := fun c _ => c == 9 }
    let st0 := (buildRuntime beh [] []).1
    let st1 := (providerCreateScope beh st0 0).1
    let st2 := (scopeCreateScope beh st1 1 0).1
    let st3 := (scopeCreateScope beh st2 2 0).1
    let st3 := updScope st3 3 (fun sc => { sc with disposables := some [5] })
    let st3 := { st3 with instMeta := fun i => if i = 5 then (9, 1) else (0, 0) }
    let r := closeScope beh id (closeFuel st3) st3 1
    let r' := closeScope {} id (closeFuel st3) st3 1
    (r.2, r.1.log.length - st3.log.length, r'.2) = (true, 1, false) := by decide

end Godi.Props.C12
