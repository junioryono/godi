import GodiProofs.Graph.Bridge
import GodiProofs.Container.BuildOrder
/-!
# C06 (graph component) — topological ordering

"Topological ordering of any acyclic dependency graph lists every node exactly once with all of a
node's dependencies before it", for **every** iteration order of the Go maps involved
(`norder` = order of `range depCounts`, `eorder` = order of `range g.edges` in `updateDegrees`).
The last two theorems are the container-level clause "verdict independent of registration order"; "singletons
created after their dependencies" is in `Props/C06b.lean`.
-/
namespace Godi.Props.C06
open Godi.Kahn (Key)
open Godi.Graph Godi.Spec

/-- a successful sort is a permutation of the nodes with every dependency strictly earlier -/
def ValidOrder (g : Graph) (l : List Key) : Prop :=
  l.Perm g.nodes ∧ ∀ a ∈ l, ∀ d ∈ g.edges a, d ∈ l ∧ l.idxOf d < l.idxOf a

/-- Soundness of `TopologicalSort` when it recomputes: the list it answers with is a valid order. -/
theorem topo_valid (g : Graph) (b : Base g) (s : Synced g) (norder : List Key) (hp : norder.Perm g.nodes)
    (hd : g.sortedDirty = true) (g' : Graph) (l : List Key)
    (h : topologicalSortWith g norder = (g', some l)) : ValidOrder g l := by
  unfold topologicalSortWith at h
  rw [hd] at h
  simp only [] at h
  split at h
  next l' hs =>
    injection h with _ h2; injection h2 with h2; subst h2
    obtain ⟨p1, p2⟩ := Kahn.sort_sound _ (kahn_wf g b s norder hp) l' hs
    refine ⟨p1.trans hp, ?_⟩
    intro a ha d hdm
    have ha' : a ∈ g.nodes := (p1.trans hp).mem_iff.1 ha
    exact p2 a ha d (by simpa [kahnView, b.deps a ha'] using hdm)
  next hs => cases h

/-- Completeness: on an acyclic graph the sort succeeds, whatever the iteration orders. -/
theorem topo_complete (g : Graph) (b : Base g) (s : Synced g) (norder : List Key) (hp : norder.Perm g.nodes)
    (hac : ¬ HasCycle (abs g)) : ∃ g' l, topologicalSortWith g norder = (g', some l) := by
  unfold topologicalSortWith
  have hac' : ¬ Kahn.HasCycle (kahnView g norder) := fun h => hac ((kahn_hasCycle_iff b norder hp).1 h)
  obtain ⟨l, hl⟩ := Kahn.sort_complete _ (kahn_wf g b s norder hp) hac'
  split
  · exact ⟨_, _, rfl⟩
  · rw [hl]; exact ⟨_, _, rfl⟩

/-- when it recomputes, the sort fails on every graph that has a cycle -/
theorem topo_fails_on_cycle (g : Graph) (b : Base g) (s : Synced g) (norder : List Key) (hp : norder.Perm g.nodes)
    (hd : g.sortedDirty = true) (hc : HasCycle (abs g)) : (topologicalSortWith g norder).2 = none := by
  unfold topologicalSortWith
  rw [hd]
  simp only []
  split
  next l hs =>
    exact absurd ((kahn_hasCycle_iff b norder hp).2 hc) (Kahn.sort_some_acyclic _ (kahn_wf g b s norder hp) l hs)
  next => rfl

/-- the deferred adds of `Build` (collection.go phase 1), one per registration -/
def addAll (g : Graph) : List (Key × Nat × List Key) → Graph
  | [] => g
  | (k, p, ds) :: rest => addAll (addProviderDeferred g k p ds) rest

theorem addAll_base (regs : List (Key × Nat × List Key)) : ∀ g, Base g → Base (addAll g regs) := by
  induction regs with
  | nil => intro g b; exact b
  | cons r rest ih =>
    intro g b
    obtain ⟨k, p, ds⟩ := r
    exact ih _ (addProviderDeferred_base g k p ds b)

/-- What `Build` does (collection.go phases 1, 2, 6): any number of deferred adds, the cycle check,
then the sort. For every registration list and all iteration orders the singleton creation order
is a valid dependency-first order of exactly the registered graph. -/
theorem build_order_valid (regs : List (Key × Nat × List Key)) (eorder norder norder' : List Key)
    (g1 g2 : Graph) (r : CycleRes) (l : List Key)
    (he : eorder.Perm (addAll {} regs).ekeys) (hn : norder'.Perm (addAll {} regs).nodes)
    (h1 : detectCyclesWith (addAll {} regs) eorder norder = (g1, r))
    (h2 : topologicalSortWith g1 norder' = (g2, some l)) :
    l.Perm (addAll {} regs).nodes ∧
      ∀ a ∈ l, ∀ d ∈ (addAll {} regs).edges a, d ∈ l ∧ l.idxOf d < l.idxOf a := by
  obtain ⟨b1, s1, n1, e1⟩ := detectCyclesWith_base_synced _ eorder norder he (addAll_base regs {} base_empty)
  -- a graph built by deferred adds only has never had its sort cache filled
  have hdirty : ∀ (regs : List (Key × Nat × List Key)) (g : Graph), g.sortedDirty = true →
      (addAll g regs).sortedDirty = true := by
    intro regs
    induction regs with
    | nil => intro g h; exact h
    | cons r rest ih => intro g _; exact ih _ rfl
  have hd := (detectCyclesWith_sortedDirty (addAll {} regs) eorder norder).trans (hdirty regs {} rfl)
  rw [h1] at b1 s1 n1 e1 hd
  have hv := topo_valid g1 b1 s1 norder' (n1 ▸ hn) hd g2 l h2
  unfold ValidOrder at hv
  rwa [n1, e1] at hv

/-- what the executable checker, which the correspondence check applies to the implementation's answer, accepts has
no repetition and the members of the node list (its dependencies-first clause is not part of this statement) -/
theorem isTopoOrder_sound (d : Digraph) (l : List Key) (h : isTopoOrder d l = true) :
    l.Nodup ∧ (∀ k, k ∈ l ↔ k ∈ d.nodes) := by
  unfold isTopoOrder at h
  simp only [Bool.and_eq_true, decide_eq_true_eq] at h
  obtain ⟨⟨⟨_, hs⟩, hn⟩, _⟩ := h
  refine ⟨hn, fun k => ?_⟩
  unfold sameSet at hs
  simp only [Bool.and_eq_true, List.all_eq_true, decide_eq_true_eq] at hs
  exact ⟨hs.1 k, hs.2 k⟩

/-- Order independence (container level): permuting the registration calls — any order of the `Add*`
calls producing the same set of descriptors — does not change the verdict of Build's phases 1–3
(circular / lifetime conflict / missing dependency / ok). Hypotheses: one registration per service
identity and pairwise distinct graph keys, both evaluated on every generated registry by `p hyp`. -/
theorem build_verdict_order_independent {descs descs' : List Godi.Container.Desc} (hp : descs'.Perm descs)
    (hu : Godi.Container.ServiceUnique descs) (hk : Godi.Container.KeysDistinct descs) :
    Godi.Container.verdict descs' = Godi.Container.verdict descs :=
  Godi.Container.verdict_order_independent hp hu hk

/-- … and the dependency relation itself (what the graph records) is a property of the registration set -/
theorem build_graph_relation_order_independent {descs descs' : List Godi.Container.Desc} (hp : descs'.Perm descs)
    (hk : Godi.Container.KeysDistinct descs) (a b : Key) :
    b ∈ (Godi.Container.buildGraph descs').edges a ↔ b ∈ (Godi.Container.buildGraph descs).edges a := by
  rw [Godi.Container.buildGraph_edge_mem descs' (Godi.Container.keysDistinct_perm hp hk),
    Godi.Container.buildGraph_edge_mem descs hk, Godi.Container.graphInput_edge_iff,
    Godi.Container.graphInput_edge_iff, Godi.Container.edgeRel_perm hp]

/-! non-vacuity: the model sorts a concrete three-node graph, built the way `Build` builds it, dependencies first -/
example : (topologicalSort (detectCycles (addAll {} [(1, 10, [2, 3]), (2, 11, [3]), (3, 12, [])])).1).2
    = some [3, 2, 1] := by decide

end Godi.Props.C06
