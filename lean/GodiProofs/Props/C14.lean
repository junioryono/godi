import GodiProofs.Container.Close
import GodiProofs.Props.C13
/-!
# C14 — Closing a scope releases everything held on its behalf (table clauses)

The tables are `provider.scopes` (`provScopes`), each scope's `children`, its `instances` cache and
its disposal list. Goroutine exit, context cancellation by Go's `context` package and garbage
collection are runtime behaviour: the harness measures them (goroutine count back to the baseline,
`Context().Err() != nil`, table sizes compared with the model line by line) — they are not theorems.
-/
namespace Godi.Props.C14
open Godi.Container

/-- closing an open scope releases its cache -/
theorem tables_released (beh : Beh) (order : List Nat → List Nat) (f : Nat) (st : State) (s : Nat)
    (h : (st.scope s).disposed = false) :
    (((closeScope beh order (f + 1) st s).1).scope s).instances = none :=
  closeScope_instances beh order f st s h

/-- the provider forgets a closed scope: its entry is erased from the provider's table … -/
theorem detached_from_provider (st : State) (s : Nat) :
    (detach st s).provScopes = st.provScopes.map (fun (l : List Nat) => List.erase l s) :=
  detach_provScopes st s

/-- … and from the parent's child table -/
theorem detached_from_parent (st : State) (s p : Nat) (hp : (st.scope s).parent = some p) :
    ((detach st s).scope p).children = ((st.scope p).children.map (fun (l : List Nat) => List.erase l s)) := by
  rw [detach_children, if_pos hp]

theorem erase_append_self (s : Nat) : ∀ (l : List Nat), s ∉ l → (l ++ [s]).erase s = l := by
  intro l
  induction l with
  | nil => intro _; simp
  | cons a rest ih =>
    intro hs
    have ha : a ≠ s := fun e => hs (by simp [e])
    have hr : s ∉ rest := fun h => hs (List.mem_cons_of_mem _ h)
    have hb : (a == s) = false := by simp [ha]
    rw [List.cons_append, List.erase_cons, hb]
    simp [ih hr]

/-- Create–close returns: tracking a fresh scope and detaching it again restores the provider's table -/
theorem create_close_restores (st : State) (s : Nat) (l : List Nat) (hl : st.provScopes = some l) (hs : s ∉ l) :
    (detach (addProvScope st s) s).provScopes = st.provScopes := by
  rw [detached_from_provider]
  simp only [addProvScope, hl, Option.map_some]
  rw [erase_append_self s l hs]

/-- A failed creation: when `newScope` fails, `provider.CreateScope` returns its state and its error as they are -/
theorem failed_creation_not_tracked (beh : Beh) (st : State) (ctx : Nat) (e : Err) (hd : st.disposed = false)
    (h : (newScope beh st none ctx true).2 = .error e) :
    providerCreateScope beh st ctx = ((newScope beh st none ctx true).1, .error e) := by
  unfold providerCreateScope
  simp only [hd, Bool.false_eq_true, ↓reduceIte]
  rw [h]

/-! ### over histories: the tables hold live scopes only -/

/-- Neither the provider nor a parent keeps a closed scope: at every point of every history that starts from a
successful Build (resolutions, scope creations — failing initializers included —, closes in any order), every
entry of the provider's scope table and of every scope's child table is an *open* scope, listed once -/
theorem tables_hold_live_scopes_only (beh : Beh) (descs : List Desc) (order : List Nat) (ops : List Op)
    (hyp : failedHyps descs = []) (hok : (buildRuntime beh descs order).2 = .ok ())
    (hv : ValidHistT beh (buildRuntime beh descs order).1 ops) :
    let st := run beh (buildRuntime beh descs order).1 ops
    (∀ l, st.provScopes = some l → l.Nodup ∧ ∀ x ∈ l, (st.scope x).disposed = false) ∧
    (∀ p C, (st.scope p).children = some C → C.Nodup ∧ ∀ c ∈ C, (st.scope c).disposed = false ∧ (st.scope c).parent = some p) := by
  intro st
  have t := Godi.Props.C13.forest_invariant_over_histories beh descs order ops hyp hok hv
  refine ⟨?_, ?_⟩
  · intro l hl
    refine ⟨(t.tbl l hl).1, fun x hx => ?_⟩
    rcases ((t.tbl l hl).2 x hx).2.2 with h | h
    · exact h
    · exact h.elim
  · intro p C hC
    refine ⟨(t.kids p C hC).1, fun c hc => ?_⟩
    obtain ⟨_, h2, h3⟩ := (t.kids p C hC).2 c hc
    rcases h3 with h | h
    · exact ⟨h, h2⟩
    · exact h.elim

/-- … and a closed scope has released its own child table and its instance cache, and is in nobody's table -/
theorem closed_scope_is_released_everywhere (beh : Beh) (descs : List Desc) (order : List Nat) (ops : List Op)
    (hyp : failedHyps descs = []) (hok : (buildRuntime beh descs order).2 = .ok ())
    (hv : ValidHistT beh (buildRuntime beh descs order).1 ops) (s : Nat) :
    let st := run beh (buildRuntime beh descs order).1 ops
    (st.scope s).disposed = true →
    (∀ l, st.provScopes = some l → s ∉ l) ∧ (∀ p C, (st.scope p).children = some C → s ∉ C) ∧
    (st.scope s).children = none ∧ (st.scope s).instances = none := by
  intro st hs
  exact closed_scope_is_released (Godi.Props.C13.forest_invariant_over_histories beh descs order ops hyp hok hv) s hs

/-- create–use–close cycles do not accumulate: after the cycle the provider's table is what it was -/
example :
    let st0 := (buildRuntime {} [] []).1
    let st1 := (providerCreateScope {} st0 0).1
    let st2 := (closeScope {} id (closeFuel st1) st1 1).1
    let st3 := (providerCreateScope {} st2 0).1
    let st4 := (closeScope {} id (closeFuel st3) st3 2).1
    (st0.provScopes, st2.provScopes, st4.provScopes) = (some [], some [], some []) := by decide

end Godi.Props.C14
