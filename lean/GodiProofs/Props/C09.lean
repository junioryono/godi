import GodiProofs.Conc.Clauses
import GodiProofs.Conc.LockFactsOk
/-!
# C09 — Providers and scopes are safe for concurrent use

Model: `GodiModel/Conc.lean` (M6), a small-step interleaving semantics whose actions are the
mutex-protected regions, atomic operations, blocking operations and calls into user code of
`/repo/scope.go` and `/repo/provider.go`, one action each, exactly where the source has them. The
tie to the source is `GodiModel/Gen/LockFacts.lean` (regenerated on every run) + `LockFactsOk.lean`,
and the schedule-forced differential run of the harness (`harness/conc`).

Every theorem below is about every state reachable (`Reach`) from `init thr`, where `thr` is
any list of threads (any number of resolvers of either scoped key, of transients, of singletons,
of child-scope creators, of `Close` callers, of `provider.Close` callers, of cancellation watchers,
of context cancellations), each with any choice of failing constructors / initializers and of map
iteration order, under any interleaving.

Assumed, not verified (Go memory model): every action is atomic and the execution is sequentially
consistent at the granularity of actions: `sync.Mutex`/`sync.RWMutex` critical sections exclude
each other and are totally ordered; `sync/atomic` loads, stores and CAS are sequentially
consistent; `sync.Map` operations are linearizable; a receive from a channel returns only after
`close`; `go f()` happens before `f` runs. Data races on fields accessed outside those primitives
cannot be expressed here — they are the business of the harness' `-race` stream. Liveness under a
fair scheduler (every call eventually returns) is not stated; deadlock freedom is.
-/
namespace Godi.Props.C09
open Godi.Conc

/-- No panic. No reachable action writes to a table that has been set to nil (Go: "assignment to
entry in nil map"): the `panicked` flag, which `cacheWrite`/`childWrite`/`scopeWrite` set on a nil
table, stays false; and no instance is appended to a disposal list `Close` has already taken. -/
theorem C09_no_panic {thr : List Thr} (h0 : InitThreads thr) {s : Sys} (r : Reach (init thr) s) :
    s.sh.panicked = false ∧ s.sh.resurrected = false :=
  ⟨(Inv.reach h0 r).gate.noPanic, (Inv.reach h0 r).gate.noRes⟩

/-- No deadlock. In every reachable state in which some call has not returned, some thread that
has not returned is enabled, i.e. a step exists; a watcher at `wS`/`wKid` counts as returned (`Pc.idle`),
whether or not its context is still alive. Rank argument: see `GodiProofs/Conc/Progress.lean`. -/
theorem C09_no_deadlock {thr : List Thr} (h0 : InitThreads thr) {s : Sys} (r : Reach (init thr) s)
    (h : ∃ th ∈ s.thr, th.pc.idle = false) :
    ∃ th ∈ s.thr, th.pc.idle = false ∧ th.enabled s.sh = true :=
  let inv := Inv.reach h0 r
  progress inv.wf inv.gate inv.lock inv.kids h

/-- … hence the interleaving relation itself can continue. -/
theorem C09_can_step {thr : List Thr} (h0 : InitThreads thr) {s : Sys} (r : Reach (init thr) s)
    (h : ∃ th ∈ s.thr, th.pc.idle = false) : ∃ s', Step s s' := by
  obtain ⟨th, hth, _, hen⟩ := C09_no_deadlock h0 r h
  obtain ⟨pre, post, hsplit⟩ := List.append_of_mem hth
  simp only [Thr.enabled, Option.isSome_iff_exists] at hen
  obtain ⟨⟨pc', sh', sp⟩, hact⟩ := hen
  refine ⟨⟨sh', pre ++ { th with pc := pc' } :: post ++ spawn sp⟩, ?_⟩
  have : s = ⟨s.sh, pre ++ th :: post⟩ := by cases s; simp_all
  rw [this]
  exact Step.mk s.sh pre post th pc' sh' sp hact

/-- Results. Every call that has returned, returned one of the results documented for its kind
(`Res.okFor`): a scoped resolution the instance / `ErrScopeDisposed` / the constructor's error; a
transient likewise; `CreateScope` a scope / the scope- or provider-disposed error / the
initializer's error; `Close` nil. And a scoped instance that was returned respects the lifetime
rule: it is the one instance ever cached for its key in this scope. -/
theorem C09_results_valid {thr : List Thr} (h0 : InitThreads thr) {s : Sys} (r : Reach (init thr) s) :
    (∀ th ∈ s.thr, ∀ res, th.pc = .done res → res.okFor th.start = true) ∧
    (∀ k i j, Visible s k i → Visible s k j → i = j) :=
  ⟨(C13_overlap h0 r).2.2.1, fun k i j => C02_one_per_scope_conc h0 r k i j⟩

/-- the creation mutex of a scoped key is held by at most one thread, and `lock q` says so. -/
theorem C09_creation_mutex {thr : List Thr} (h0 : InitThreads thr) {s : Sys} (r : Reach (init thr) s) (q : Key) :
    tot (holdsL q) s.thr = b2n (s.sh.lock.get q) ∧ tot (holdsL q) s.thr ≤ 1 := by
  have := (Inv.reach h0 r).lock.held q
  exact ⟨this, by rw [this]; exact b2n_le _⟩

/-- the relation the theorems quantify over is the one the executable model (and therefore the
driver that replays harness schedules) computes -/
theorem C09_step_executable (s s' : Sys) : Step s s' ↔ ∃ t, step? s t = some s' := step_iff s s'

/-- The tie to the source: the synchronisation skeleton the extractor regenerates from the current scope.go /
provider.go on every run (`GodiModel/Gen/LockFacts.lean`) equals the table M6's action programs were written from
(`GodiProofs/Conc/LockFactsOk.lean`). -/
theorem C09_source_skeleton : Godi.Gen.LockFacts.facts = Godi.Conc.LockExpected.facts :=
  Godi.Conc.LockFactsOk.facts_eq

/-- checked on the source: no mutex is acquired while another is held; none is held at a channel
receive, at a call into another godi function or user code, or at a return (except the creation
mutex handed out by `lockCreation`) — the reason M6 may treat each protected region as one action
and leave table mutexes out of the deadlock argument -/
theorem C09_table_locks_flat :
    Godi.Conc.LockFactsOk.allEvents Godi.Conc.LockFactsOk.Ev.flatOk Godi.Gen.LockFacts.facts = true :=
  Godi.Conc.LockFactsOk.table_locks_flat

/-- checked on the source: every access to a field with a `<field>Mu` sibling holds that mutex -/
theorem C09_guarded_fields_locked :
    Godi.Conc.LockFactsOk.allEvents Godi.Conc.LockFactsOk.Ev.guardOk Godi.Gen.LockFacts.facts = true :=
  Godi.Conc.LockFactsOk.guarded_fields_locked

/-- the extractor understood every statement -/
theorem C09_skeleton_complete :
    Godi.Conc.LockFactsOk.allEvents (fun e => !Godi.Conc.LockFactsOk.Ev.isUnknown e) Godi.Gen.LockFacts.facts = true :=
  Godi.Conc.LockFactsOk.no_unknown

theorem run_reach {s s' : Sys} {sched : List Nat} (h : run s sched = some s') : Reach s s' := by
  induction sched generalizing s with
  | nil => simp only [run, Option.some.injEq] at h; subst h; exact Reach.refl _
  | cons t ts ih =>
    simp only [run] at h
    split at h
    · cases h
    · rename_i s1 hs
      exact Reach.trans (Reach.step (Reach.refl _) ((step_iff _ _).2 ⟨t, hs⟩)) (ih h)

/-! ## Non-vacuity: concrete schedules (replayed by the kernel) -/

def thr (p : Pc) (c : Cfg := {}) : Thr := { cfg := c, start := p, pc := p }

/-- "Close runs completely while a scoped constructor is in flight": thread 0 resolves `b` and is
inside the constructor when thread 1 runs `Close` from CAS to signal; the late instance is disposed
by the resolver itself, exactly once, and the resolver reports the disposed error. -/
example :
    (run (init [thr (.rChk .b false), thr (.cCas (.ret .okUnit))])
        [0,0,0,0,0,0, 1,1,1,1,1,1,1,1,1,1, 0,0,0,0]).map
      (fun s => (s.thr.map (·.pc), s.sh.created, s.sh.closed, s.sh.panicked, s.sh.cache.isNone)) =
    some ([.done .disposed, .done .okUnit], [1], [1], false, true) := by decide

/-- two resolvers of `a` (which needs `b`): the second one waits for the creation mutex and takes the
first one's instance; one `a`, one `b`. -/
example :
    (run (init [thr (.rChk .a false), thr (.rChk .a false)])
        ([0,0,0,0,0] ++ [1,1,1] ++ [0,0,0,0,0,0,0,0,0,0, 0,0,0] ++ [1,1,1])).map
      (fun s => (s.thr.map (·.pc), s.sh.created.length, s.sh.ever)) =
    some ([.done (.ok .a 2), .done (.ok .a 2)], 2, ⟨[2], [1]⟩) := by decide

/-- a failed construction caches nothing and the next resolver retries (and succeeds). -/
example :
    (run (init [thr (.rChk .b false) { failB := true }, thr (.rChk .b false)])
        ([0,0,0,0,0,0,0] ++ [1,1,1,1,1,1,1,1,1])).map
      (fun s => (s.thr.map (·.pc), s.sh.ever.b)) =
    some ([.done .ctorErr, .done (.ok .b 1)], [1]) := by decide

/-- thread 1 is blocked on the creation mutex while thread 0 is inside the constructor -/
example :
    ((run (init [thr (.rChk .b false), thr (.rChk .b false)]) [0,0,0,0,0, 1,1,1]).bind (step? · 1)) = none := by
  decide

/-- the hypotheses of the theorems are met by these thread lists -/
example : InitThreads [thr (.rChk .a false), thr (.cCas (.ret .okUnit)), thr .sChk, thr .pCas, thr .wS, thr .xCancel,
    thr .tChk, thr .gChk] := by
  intro th h
  simp only [List.mem_cons, List.not_mem_nil, or_false] at h
  rcases h with rfl | rfl | rfl | rfl | rfl | rfl | rfl | rfl <;> exact ⟨rfl, rfl⟩

end Godi.Props.C09
