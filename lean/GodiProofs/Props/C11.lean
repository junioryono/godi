import GodiProofs.Container.Close
import GodiProofs.Container.Order
import GodiProofs.Container.ArgsBelow
import GodiProofs.Container.HypSound
/-!
# C11 — Disposal order

The disposal list of an owner is append-only in creation order (`track`, `setInstance`), so
"reverse of the list" is "reverse of creation". Dependencies are constructed before their consumer
completes (`buildArgs` runs before the constructor event), so reverse creation order closes
dependents before dependencies.
-/
namespace Godi.Props.C11
open Godi.Container

/-- Reverse creation, children first: a scope's Close logs whatever closing all its children logs,
and only then its own instances — each exactly once, newest first -/
theorem children_then_own_reversed (beh : Beh) (order : List Nat → List Nat) (f : Nat) (st : State) (s : Nat)
    (h : (st.scope s).disposed = false) :
    let r1 := closeChildren beh order f (takeChildren (markDisposed st s) s) (order ((st.scope s).children.getD []))
    (closeScope beh order (f + 1) st s).1.log =
      r1.1.log ++ (((r1.1.scope s).disposables.getD []).reverse).map (closedEv beh r1.1 s) :=
  closeScope_log beh order f st s h

/-- Scopes before singletons: the provider closes every tracked scope, then the root scope, and only
then the singletons — each exactly once, newest first -/
theorem scopes_then_singletons_reversed (beh : Beh) (order : List Nat → List Nat) (st : State) (h : st.disposed = false) :
    let st2 : State := { st with disposed := true, provScopes := none }
    let scopes := order (st.provScopes.getD [])
    let r1 := closeChildren beh order (closeFuel st2 + scopes.length + 2) st2 scopes
    let r2 := closeScope beh order (closeFuel r1.1) r1.1 rootScope
    (closeProvider beh order st).1.log =
      r2.1.log ++ ((r2.1.provDisposables.getD []).reverse).map (closedEv beh r2.1 providerOwner) := by
  intro st2 scopes r1 r2
  unfold closeProvider
  simp only [h, Bool.false_eq_true, ↓reduceIte]
  rw [closeLoop_eq]
  rfl

/-- the list is append-only in creation order: tracking a new disposable puts it last -/
theorem track_appends (st : State) (s : Nat) (i : Inst) (h : (st.scope s).disposed = false) :
    (((track st s (.inst i) true).1).scope s).disposables = some (((st.scope s).disposables.getD []) ++ [i]) := by
  unfold track; simp [h, updScope]

/-- a list `[4, 5, 9]` is closed as 9, 5, 4 -/
example : (closeScope {} id 3
    { scope := fun x => if x = 1 then { disposables := some [4, 5, 9] } else {} , nscopes := 2 } 1).1.log =
    [.closed 1 9 true, .closed 1 5 true, .closed 1 4 true] := by decide

/-! ### over Build and all histories: the lists are in creation order (`Container/Order.lean`) -/

/-- Creation order: in the state a successful Build returns and after every history of resolutions, scope creations
(failing initializers included) and closes, the disposal list of every scope is strictly increasing in instance id.
Ids are handed out by the container's counter when a constructor has returned, so the list is the order in which
the scope's disposable instances were created (arguments first: they exist before the constructor that receives
them returns). -/
theorem disposal_lists_in_creation_order (beh : Beh) (descs : List Desc) (order : List Nat) (ops : List Op)
    (hyp : failedHyps descs = []) (hok : (buildRuntime beh descs order).2 = .ok ()) (s : Nat) :
    let st := run beh (buildRuntime beh descs order).1 ops
    (dispOf st s).Pairwise (· < ·) ∧ ∀ i ∈ dispOf st s, i < st.next := by
  obtain ⟨_, _, is, _⟩ := hyps_of_check hyp
  exact sd_run beh descs is ops _ (buildRuntime_descs beh descs order hok) (sd_buildRuntime beh is order hok) s

/-- Reverse of creation, for every Close in every history: `Close` of an open scope first logs whatever closing its
children logs, then one `closed` event per instance of its own disposal list `L`, in the order `L.reverse` — and `L`
is in creation order. So the scope's own instances are closed in exactly the reverse of the order in which they
were created: newest first, every instance before the instances that existed when it was constructed. -/
theorem own_instances_closed_in_reverse_creation_order (beh : Beh) (descs : List Desc) (order : List Nat) (ops : List Op)
    (hyp : failedHyps descs = []) (hok : (buildRuntime beh descs order).2 = .ok ())
    (corder : List Nat → List Nat) (s : Nat) :
    let st := run beh (buildRuntime beh descs order).1 ops
    (st.scope s).disposed = false →
    ∃ (before : List Event) (st1 : State) (L : List Inst), L.Pairwise (· < ·) ∧
      (closeScope beh corder (closeFuel st) st s).1.log = before ++ (L.reverse).map (closedEv beh st1 s) := by
  intro st hopen
  obtain ⟨f, hf⟩ : ∃ f, closeFuel st = f + 1 := ⟨closeFuel st - 1, by unfold closeFuel; omega⟩
  rw [hf]
  have hlog := closeScope_log beh corder f st s hopen
  simp only [] at hlog
  have sd0 : SD st := fun x => disposal_lists_in_creation_order beh descs order ops hyp hok x
  have h1 := (dispClose beh).enter (st := st) s trivial hopen
  have h2 := (dispShrink_close beh corder f).2 (takeChildren (markDisposed st s) s) (corder ((st.scope s).children.getD []))
  exact ⟨_, _, _, ((h1.trans h2).sd sd0 s).1, hlog⟩

/-- Arguments are older: in the log of every history after a successful Build, in every constructor event every
instance among the arguments — plain, keyed, a parameter-object field or a member of a group argument — has a smaller
id than every product of that invocation (`Container/ArgsBelow.lean`, invariant `AB`) -/
theorem arguments_are_older_than_products (beh : Beh) (descs : List Desc) (order : List Nat) (ops : List Op)
    (hyp : failedHyps descs = []) (hok : (buildRuntime beh descs order).2 = .ok ())
    (did c inv s : Nat) (args : List Val) (outs : List Inst)
    (he : Event.ctor did c inv s args outs ∈ (run beh (buildRuntime beh descs order).1 ops).log) :
    ∀ a ∈ outs, ∀ v ∈ args, ∀ b ∈ idsOf v, b < a := by
  obtain ⟨h0, hff⟩ := ab_buildRuntime beh descs order hok
  exact (ab_run beh descs ops _ (buildRuntime_descs beh descs order hok) hff h0).evs _ he

theorem newest_first {L : List Inst} (h : L.Pairwise (· < ·)) : L.reverse.Pairwise (· > ·) := by
  rw [List.pairwise_reverse]
  exact h.imp (fun hab => hab)

/-- Dependents before dependencies, the list fact. Applied to the disposal list of a scope (increasing, and closed in reverse:
`own_instances_closed_in_reverse_creation_order`) and to a consumer `a` with an instance `b` it received
(`b < a`: `arguments_are_older_than_products`) it says that `a` is closed before `b`. -/
theorem consumer_closed_before_what_it_received {L : List Inst} (h : L.Pairwise (· < ·)) (a b : Inst)
    (ha : a ∈ L) (hb : b ∈ L) (hlt : b < a) : L.reverse.idxOf a < L.reverse.idxOf b := by
  have ia := List.idxOf_lt_length_of_mem (List.mem_reverse.2 ha)
  have ib := List.idxOf_lt_length_of_mem (List.mem_reverse.2 hb)
  -- of two positions in a decreasing list the later one holds the smaller id
  have hp := List.pairwise_iff_getElem.1 (newest_first h) _ _ ib ia
  rw [List.getElem_idxOf ib, List.getElem_idxOf ia] at hp
  rcases Nat.lt_trichotomy (L.reverse.idxOf a) (L.reverse.idxOf b) with h1 | h1 | h1
  · exact h1
  · have e : a = b := by rw [← List.getElem_idxOf ia, ← List.getElem_idxOf ib]; simp only [h1]
    exact absurd hlt (e ▸ Nat.lt_irrefl _)
  · exact absurd hlt (Nat.lt_asymm (hp h1))

/-- scoped 4 (disposable) consumes scoped 3 (disposable): created 3 then 4, closed 4 then 3 -/
def exOrder : List Desc :=
  [{ id := 0, ident := ⟨3, 0, 0⟩, life := .scoped, ctor := 1, kind := .plain, deps := [], disp := true },
   { id := 1, ident := ⟨4, 0, 0⟩, life := .scoped, ctor := 2, kind := .plain, deps := [{ ty := 3 }], disp := true }]
example :
    let st0 := (buildRuntime {} exOrder []).1
    let st1 := (providerCreateScope {} st0 0).1
    let st2 := (scopeGet {} st1 1 4 0).1
    (dispOf st2 1, ((closeScope {} id (closeFuel st2) st2 1).1.log.drop st2.log.length)) =
      ([1, 2], [.closed 1 2 true, .closed 1 1 true]) := by decide

end Godi.Props.C11
