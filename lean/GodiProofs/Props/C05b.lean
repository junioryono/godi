import GodiProofs.Container.Terminates
import GodiProofs.Container.HypSound
/-!
# C05 (container clauses) — Build's cycle verdict is exact; resolution terminates

* phase 2 of `doBuild` reports "circular" exactly when the graph phase 1 recorded — one node per
  registration, one per group, edges to every declared dependency and from a group to each member —
  has a directed cycle (`build_circular_iff`, `build_graph_is_declared_relation`);
* consequently every resolution terminates: for every registry that passes that check (and has the
  structural guarantees of the collection, which `p hyp` evaluates on every registry godi produces), every
  state over it, every scope, every constructor behaviour and every request, the unguarded recursion
  `resolve → createInstance → buildArguments → resolve` is *settled* at the fuel the model runs on: any
  larger fuel yields the same state and the same answer, and the answer is never "out of fuel"
  (`resolution_terminates`, `group_resolution_terminates`, `construction_terminates`).
  The fuel is only the model's device; what the theorem says about the Go code is that its recursion
  reaches a result after finitely many calls.
* on a cyclic registry the premise fails for a reason: `cyclic_registry_is_not_settled` exhibits a
  two-registration cycle on which 9 and 12 units of fuel give different outcomes.
-/
namespace Godi.Props.C05b
open Godi.Container Godi.Graph Godi.Spec
open Godi.Kahn (Key)

/-- the graph phase 1 builds is the declared dependency relation (`EdgeRel`: a registration's node points to the
identity of each declared dependency, a group's node to each of its members) -/
theorem build_graph_is_declared_relation (descs : List Desc) (hk : KeysDistinct descs) (a b : Key) :
    b ∈ (buildGraph descs).edges a ↔ EdgeRel descs a b := by
  rw [buildGraph_edge_mem descs hk, graphInput_edge_iff]

/-- Exact: the verdict is "circular" iff that relation has a directed cycle -/
theorem build_circular_iff (descs : List Desc) :
    verdict descs = .circular ↔ HasCycle (abs (buildGraph descs)) := by
  rw [(verdict_iff descs).1, ne_eq, cycle_phase_exact, Classical.not_not]

/-- a registry that passes the cycle check has a rank that strictly decreases along every declared
dependency (plain, keyed, parameter-object field, and every member of a group) -/
theorem accepted_registry_is_ranked (descs : List Desc) (hyp : failedHyps descs = [])
    (hv : verdict descs ≠ .circular) : ∃ rank, Ranked descs rank := by
  obtain ⟨_, _, _, _, hk, _, _, _, hs, hdk⟩ := hyps_of_check hyp
  exact ⟨_, ranked_of_verdict descs hk hs hdk hv⟩

/-- Resolution terminates (`Get`, `GetKeyed`, and every dependency resolved on the way) -/
theorem resolution_terminates (beh : Beh) (descs : List Desc) (hyp : failedHyps descs = [])
    (hv : verdict descs ≠ .circular) (st : State) (hst : st.descs = descs) (s ty key : Nat) :
    (∀ f, fuelFor st ≤ f → resolve beh f st s ty key = scopeGet beh st s ty key) ∧
    noFuel (scopeGet beh st s ty key).2 = true := by
  obtain ⟨rank, hr⟩ := accepted_registry_is_ranked descs hyp hv
  exact resolve_settled beh descs rank hr st hst s ty key

/-- … `GetGroup` -/
theorem group_resolution_terminates (beh : Beh) (descs : List Desc) (hyp : failedHyps descs = [])
    (hv : verdict descs ≠ .circular) (st : State) (hst : st.descs = descs) (s ty grp : Nat) :
    (∀ f, fuelFor st ≤ f → getGroup beh f st s ty grp = scopeGetGroup beh st s ty grp) ∧
    noFuel (scopeGetGroup beh st s ty grp).2 = true := by
  obtain ⟨rank, hr⟩ := accepted_registry_is_ranked descs hyp hv
  exact getGroup_settled beh descs rank hr st hst s ty grp

/-- … the constructions Build (singletons) and scope creation (initializers) start -/
theorem construction_terminates (beh : Beh) (descs : List Desc) (hyp : failedHyps descs = [])
    (hv : verdict descs ≠ .circular) (st : State) (hst : st.descs = descs) (s : Nat) (d : Desc) (hd : d ∈ descs) :
    (∀ f, fuelFor st ≤ f → createInstance beh f st s d = createInstance beh (fuelFor st) st s d) ∧
    noFuel (createInstance beh (fuelFor st) st s d).2 = true := by
  obtain ⟨rank, hr⟩ := accepted_registry_is_ranked descs hyp hv
  exact createInstance_settled beh descs rank hr st hst s d hd

/-- a successful Build is one of the accepted registries -/
theorem successful_build_is_accepted (beh : Beh) (descs : List Desc) (order : List Nat) (st : State)
    (h : build beh descs order = (st, .ok ())) : verdict descs ≠ .circular := by
  intro hc
  unfold build at h
  rw [hc] at h
  simp at h

/-! ### non-vacuity, and why the premise is needed -/

/-- scoped 5 ← (scoped 6, group (7, 1)), 6 ← singleton 8, two members of group (7,1) of which one needs 8 -/
def exAcyclic : List Desc :=
  [{ id := 0, ident := ⟨5, 0, 0⟩, life := .scoped, ctor := 1, kind := .plain, deps := [{ ty := 6 }, { ty := 7, grp := 1 }, { ty := tyCtx }] },
   { id := 1, ident := ⟨6, 0, 0⟩, life := .scoped, ctor := 2, kind := .plain, deps := [{ ty := 8 }] },
   { id := 2, ident := ⟨8, 0, 0⟩, life := .singleton, ctor := 3, kind := .plain, deps := [] },
   { id := 3, ident := ⟨7, 1, 1⟩, life := .transient, ctor := 4, kind := .plain, deps := [{ ty := 8 }] },
   { id := 4, ident := ⟨7, 2, 1⟩, life := .transient, ctor := 5, kind := .plain, deps := [] }]

example : failedHyps exAcyclic = [] := by decide
example : verdict exAcyclic = .ok := by decide

/-- A needs B, B needs A (both scoped): Build answers "circular" … -/
def exCyclic : List Desc :=
  [{ id := 0, ident := ⟨5, 0, 0⟩, life := .scoped, ctor := 1, kind := .plain, deps := [{ ty := 6 }] },
   { id := 1, ident := ⟨6, 0, 0⟩, life := .scoped, ctor := 2, kind := .plain, deps := [{ ty := 5 }] }]

example : failedHyps exCyclic = [] := by decide
example : verdict exCyclic = .circular := by decide

def errOf (r : Except Err Val) : Err := match r with | .error e => e | .ok _ => []

/-- … and if it did not, resolution would not settle: with 9 and with 12 units of fuel the recursion is cut at
different depths and reports different error chains -/
theorem cyclic_registry_is_not_settled :
    errOf (resolve {} 9 { descs := exCyclic, nscopes := 1 } 0 5 0).2 ≠
    errOf (resolve {} 12 { descs := exCyclic, nscopes := 1 } 0 5 0).2 := by
  decide

end Godi.Props.C05b
