import GodiProofs.Container.Stable
import GodiProofs.Container.Close
import GodiProofs.Container.TreeBuild
import GodiModel.Hyp
import GodiProofs.Container.Cancel
/-!
# C13 — Closed means closed (sequential clauses)

After `Close` has returned on a scope every later operation on it fails with the scope-disposed
error and changes nothing; closing a scope disposes it; after `Provider.Close` the provider refuses.
The overlap clause ("an operation that overlaps a Close …") is `C13_overlap` of the interleaving
model M6; "cancelling the context closes the scope" is the watcher goroutine: the driver closes the
affected scopes (`p cancel`), the harness waits for the real watchers — eventuality in real time is
runtime behaviour.
-/
namespace Godi.Props.C13
open Godi.Container

/-- a disposed scope refuses every resolution, whatever the registry, and nothing changes -/
theorem refuses_get (beh : Beh) (st : State) (s ty key : Nat) (h : (st.scope s).disposed = true) :
    scopeGet beh st s ty key = (st, .error [.scopeDisposed]) := by
  unfold scopeGet fuelFor resolve; simp [h]

/-- … every group resolution -/
theorem refuses_group (beh : Beh) (st : State) (s ty grp : Nat) (h : (st.scope s).disposed = true) :
    scopeGetGroup beh st s ty grp = (st, .error [.scopeDisposed]) := by
  unfold scopeGetGroup fuelFor getGroup; simp [h]

/-- … and every creation of a child scope -/
theorem refuses_create (beh : Beh) (st : State) (s ctx : Nat) (h : (st.scope s).disposed = true) :
    scopeCreateScope beh st s ctx = (st, .error [.scopeDisposed]) := by
  unfold scopeCreateScope; simp [h]

/-- a disposed provider refuses everything -/
theorem provider_refuses (beh : Beh) (st : State) (ty key grp ctx : Nat) (h : st.disposed = true) :
    providerGet beh st ty key = (st, .error [.providerDisposed]) ∧
    providerGetGroup beh st ty grp = (st, .error [.providerDisposed]) ∧
    providerCreateScope beh st ctx = (st, .error [.providerDisposed]) := by
  refine ⟨?_, ?_, ?_⟩
  · unfold providerGet; simp [h]
  · unfold providerGetGroup; simp [h]
  · unfold providerCreateScope; simp [h]

/-- `Close` on an open scope releases its cache -/
theorem close_disposes (beh : Beh) (order : List Nat → List Nat) (f : Nat) (st : State) (s : Nat)
    (h : (st.scope s).disposed = false) :
    (((closeScope beh order (f + 1) st s).1).scope s).instances = none :=
  closeScope_instances beh order f st s h

/-- `Close` on a closed scope is a no-op that reports no error (idempotence, also C12) -/
theorem close_again_noop (beh : Beh) (order : List Nat → List Nat) (f : Nat) (st : State) (s : Nat)
    (h : (st.scope s).disposed = true) : closeScope beh order f st s = (st, false) :=
  closeScope_of_disposed beh order f st s h

/-- after `Provider.Close` of an open provider the singleton table is empty -/
theorem provider_close_disposes (beh : Beh) (order : List Nat → List Nat) (st : State) (h : st.disposed = false) :
    (closeProvider beh order st).1.singletons = [] := by
  unfold closeProvider; simp [h]

/-- `Provider.Close` on a closed provider is a no-op that reports no error -/
theorem provider_close_again_noop (beh : Beh) (order : List Nat → List Nat) (st : State) (h : st.disposed = true) :
    closeProvider beh order st = (st, false) :=
  closeProvider_of_disposed beh order st h

/-- Cascade: closing a scope disposes the scope and every child it has (and, the same theorem applied
to each child, every descendant), for every iteration order of the child table -/
theorem close_cascades (beh : Beh) (order : List Nat → List Nat) (f : Nat) (st : State) (s : Nat)
    (hopen : (st.scope s).disposed = false) (hf : (order ((st.scope s).children.getD [])).length + 1 ≤ f) :
    (((closeScope beh order (f + 1) st s).1).scope s).disposed = true ∧
    ∀ c ∈ order ((st.scope s).children.getD []), (((closeScope beh order (f + 1) st s).1).scope c).disposed = true := by
  refine ⟨closeScope_disposes_self beh order f st s, fun c hc => ?_⟩
  refine closeScope_cases beh order f st s (M := fun r => (r.1.scope c).disposed = true)
    (fun h => absurd (h.symm.trans hopen) nofun) (fun _ r1 r2 e1 e2 => ?_)
  have hkids : (r1.1.scope c).disposed = true := e1 ▸ closeChildren_disposes_all beh order _ f _ hf c hc
  exact e2 ▸ closeTail_dispMono beh s r1.1 _ c hkids

/-- Closed stays closed: no Close (of any scope, with any fuel and order) ever makes a disposed
scope usable again -/
theorem disposed_is_forever (beh : Beh) (order : List Nat → List Nat) (f : Nat) (st : State) (s x : Nat)
    (h : (st.scope x).disposed = true) : (((closeScope beh order f st s).1).scope x).disposed = true :=
  (closeScope_dispMono beh order f).1 st s x h

/-- closing a list of scopes (what `Provider.Close` does with its table) disposes each of them -/
theorem closing_all_disposes_all (beh : Beh) (order : List Nat → List Nat) (l : List Nat) (fuel : Nat) (st : State)
    (hf : l.length + 1 ≤ fuel) (c : Nat) (hc : c ∈ l) :
    (((closeChildren beh order fuel st l).1).scope c).disposed = true :=
  closeChildren_disposes_all beh order l fuel st hf c hc

/-! ### the whole subtree, over histories (`Container/Tree.lean`, `TreeOps.lean`, `TreeBuild.lean`) -/

/-- the forest invariant holds after every history that starts from a successful Build. `ValidHistT`
(`Container/TreeOps.lean`): the parent of a created scope and every closed scope exist, and `Close` visits each child
table in some permutation of it; resolutions are unrestricted. -/
theorem forest_invariant_over_histories (beh : Beh) (descs : List Desc) (order : List Nat) (ops : List Op)
    (hyp : failedHyps descs = []) (hok : (buildRuntime beh descs order).2 = .ok ())
    (hv : ValidHistT beh (buildRuntime beh descs order).1 ops) :
    Tree (run beh (buildRuntime beh descs order).1 ops) :=
  tree_run beh ops _ (tree_buildRuntime beh descs order hok).1 (tree_buildRuntime beh descs order hok).2 hv

/-- Closed means closed, all the way down: at every point of every history, a closed scope has no open
descendant — however deep, whoever closed it (its own `Close`, an ancestor's, a failed creation) -/
theorem closed_scope_has_no_open_descendant (beh : Beh) (descs : List Desc) (order : List Nat) (ops : List Op)
    (hyp : failedHyps descs = []) (hok : (buildRuntime beh descs order).2 = .ok ())
    (hv : ValidHistT beh (buildRuntime beh descs order).1 ops) (s x : Nat) :
    let st := run beh (buildRuntime beh descs order).1 ops
    (st.scope s).disposed = true → x < st.nscopes → Below st s x → (st.scope x).disposed = true := by
  intro st hs hx hb
  exact closed_has_no_open_descendant (forest_invariant_over_histories beh descs order ops hyp hok hv) s hs x hx hb

/-- Cascade, whole subtree: after any history, `Close` of any scope — ranging over the child tables in any
order — leaves that scope and every descendant closed (with the fuel the model runs on: the recursion reaches
all of them) -/
theorem close_reaches_every_descendant (beh : Beh) (descs : List Desc) (order : List Nat) (ops : List Op)
    (hyp : failedHyps descs = []) (hok : (buildRuntime beh descs order).2 = .ok ())
    (hv : ValidHistT beh (buildRuntime beh descs order).1 ops)
    (corder : List Nat → List Nat) (hperm : ∀ l, (corder l).Perm l) (s : Nat) :
    let st := run beh (buildRuntime beh descs order).1 ops
    s < st.nscopes →
    let st' := (closeScope beh corder (closeFuel st) st s).1
    (st'.scope s).disposed = true ∧ ∀ x, x < st.nscopes → Below st s x → (st'.scope x).disposed = true := by
  intro st hs st'
  have t := forest_invariant_over_histories beh descs order ops hyp hok hv
  obtain ⟨_, h2, h3⟩ := close_whole_subtree beh corder hperm st t s hs (closeFuel st) (closeFuel_ge st s)
  exact ⟨h2, fun x hx hb => (h3 x hx hb).1⟩

/-- Cancelling a context closes its scopes: after any history, `cancel()` of a user context `x` — followed by the
cancellation watchers it wakes, which is what the model's `cancelCtx` runs — leaves closed every scope (other than
the root) that was created with `x` or with a context derived from `x`, and every scope created *without* a context
by such a scope, at any depth (`ScopeUnder`); nothing that was closed is reopened; the forest invariant holds again.
(When the watcher goroutines actually run is runtime behaviour: the harness waits for them.) -/
theorem cancelling_a_context_closes_its_scopes (beh : Beh) (descs : List Desc) (order : List Nat) (ops : List Op)
    (hyp : failedHyps descs = []) (hok : (buildRuntime beh descs order).2 = .ok ())
    (hv : ValidHistT beh (buildRuntime beh descs order).1 ops) (x : Nat) :
    let st := run beh (buildRuntime beh descs order).1 ops
    CtxWF st →
    Tree (cancelCtx beh st x) ∧
    (∀ s, (st.scope s).disposed = true → ((cancelCtx beh st x).scope s).disposed = true) ∧
    ∀ s, s < st.nscopes → s ≠ rootScope → ScopeUnder st x s → ((cancelCtx beh st x).scope s).disposed = true := by
  intro st wfc
  exact cancel_closes_scopes_under beh st (forest_invariant_over_histories beh descs order ops hyp hok hv) wfc x

/-! non-vacuity: context 2 is derived from context 1; s1 is created with context 2, s2 by s1 without a context,
s3 with no context from the provider. Cancelling 1 closes s1 and s2, not s3 -/
example :
    let st0 := (buildRuntime {} [] []).1
    let st0 := { st0 with ctxParent := fun c => if c = 2 then 1 else 0 }
    let st1 := (providerCreateScope {} st0 2).1
    let st2 := (scopeCreateScope {} st1 1 0).1
    let st3 := (providerCreateScope {} st2 0).1
    let st4 := cancelCtx {} st3 1
    ((st4.scope 1).disposed, (st4.scope 2).disposed, (st4.scope 3).disposed) = (true, true, false) := by
  decide

/-! non-vacuity: root ← s1 ← s2 ← s3; closing s1 closes s2 and s3 -/
example :
    let st0 := (buildRuntime {} [] []).1
    let st1 := (providerCreateScope {} st0 0).1
    let st2 := (scopeCreateScope {} st1 1 0).1
    let st3 := (scopeCreateScope {} st2 2 0).1
    let st4 := (closeScope {} id (closeFuel st3) st3 1).1
    ((st4.scope 1).disposed, (st4.scope 2).disposed, (st4.scope 3).disposed, st4.provScopes) = (true, true, true, some []) := by
  decide

end Godi.Props.C13
