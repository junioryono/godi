import GodiProofs.Container.KahnOrder
import GodiProofs.Props.C08
/-!
# C06 (continued): the sorted order is the order the creation loop needs

`Props/C06` proves that what `TopologicalSort` returns lists every node once, dependencies first. Here that order is
carried to the container model: translated to registrations it lists every singleton after every singleton it reaches
through its declared dependencies — through transients, scoped services and group nodes as well —, which is the premise
under which `doBuild`'s creation loop succeeds (`Props/C08`, `build_accepts_valid_sets`). So phases 1–6 of Build compose.
-/
namespace Godi.Props.C06b
open Godi.Container Godi.Graph Godi.Spec
open Godi.Kahn (Key)
open Godi.Props.C06 (ValidOrder)

/-- a dependency-first order of the graph Build made lists every singleton, each after every singleton it reaches -/
theorem sorted_order_is_a_creation_order (descs : List Desc) (hyp : failedHyps descs = [])
    (l : List Key) (hv : ValidOrder (buildGraph descs) l) :
    (∀ d ∈ descs, d.life = .singleton → d.id ∈ orderIds descs l) ∧
    (∀ pre id post, orderIds descs l = pre ++ id :: post → ∀ d, findDesc descs id = some d → d.life = .singleton →
      ∀ t, ReachLong descs d t → t.life = .singleton → t.id ∈ pre) := by
  obtain ⟨wf, _, _, _, hk, _, _, _, _, hdk⟩ := hyps_of_check hyp
  exact sorted_order_is_creation_order descs wf hk hdk l hv

/-- Build, end to end on the model: deferred adds, `detectCycles` and `TopologicalSort` in any map iteration
orders, then the creation loop in the order the sort returned and the root initializers: a valid registration set
whose constructors succeed is built without an error. -/
theorem build_succeeds_with_the_order_the_sort_returns (beh : Beh) (gb : GoodBeh beh) (descs : List Desc)
    (hyp : failedHyps descs = []) (hv : verdict descs = .ok)
    (eorder norder norder2 : List Key) (g1 g2 : Graph) (r : CycleRes) (l : List Key)
    (he : eorder.Perm (buildGraph descs).ekeys) (hn : norder2.Perm (buildGraph descs).nodes)
    (h1 : detectCyclesWith (buildGraph descs) eorder norder = (g1, r))
    (h2 : topologicalSortWith g1 norder2 = (g2, some l)) :
    (build beh descs (orderIds descs l)).2 = .ok () :=
  Godi.Container.build_succeeds_with_the_order_the_sort_returns beh gb descs hyp hv eorder norder norder2 g1 g2 r l he hn h1 h2

/-- C08, positive form, end to end: a registration set with the collection's structural guarantees that passes
validation, constructors that succeed, the creation order the sort delivers: Build returns a provider, and in it every
registered service, whatever its lifetime, is constructed without an error (`build_state`, `Container/BuildTotal.lean`:
the state Build returns has the registered registry, an open root scope, nothing marked constructed-without-value and
every singleton stored) -/
theorem built_provider_resolves_every_service (beh : Beh) (gb : GoodBeh beh) (descs : List Desc)
    (hyp : failedHyps descs = []) (hv : verdict descs = .ok) (l : List Key) (hl : ValidOrder (buildGraph descs) l)
    (d : Desc) (hd : d ∈ descs) :
    (build beh descs (orderIds descs l)).2 = .ok () ∧
    ∃ v, (createInstance beh (fuelFor (build beh descs (orderIds descs l)).1) (build beh descs (orderIds descs l)).1
      rootScope d).2 = .ok v := by
  obtain ⟨wf, _, _, _, hk, _, _, _, _, hdk⟩ := hyps_of_check hyp
  obtain ⟨hall, hord⟩ := sorted_order_is_creation_order descs wf hk hdk l hl
  obtain ⟨hok, c, hst⟩ := build_state beh gb descs (orderIds descs l) hyp hv hall hord
  exact ⟨hok, createInstance_succeeds beh gb descs (valid_of_check descs hyp hv) _ rootScope c d hd
    (fun t ht htl => hst t (reachLong_mem ht) htl)⟩

open Godi.Props.C08 in
/-- non-vacuity: the chain example of `Props/C08`, sorted by the model's own sort, gives the creation order of
descriptor ids 2, 1, 0, 3: the singleton of type 8 (id 2) before the singleton of type 6 (id 0) that reaches it -/
example :
    let g := buildGraph exChain
    let g1 := (detectCyclesWith g g.ekeys g.nodes).1
    ((topologicalSortWith g1 g.nodes).2.map (orderIds exChain)) = some [2, 1, 0, 3] := by decide

end Godi.Props.C06b
