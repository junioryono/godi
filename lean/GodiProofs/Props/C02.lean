import GodiProofs.Container.Instances
import GodiProofs.Container.ScopedHistory
import GodiProofs.Container.ScopedInit
/-!
# C02 — Scoped: one instance per scope, never shared between scopes (sequential clauses)

The concurrent clause (any number of goroutines resolving one scoped registration in one scope get
one instance) is `C02_one_per_scope_conc` in the interleaving model M6 (creation lock per registration and
scope; `Conc/Clauses.lean`); that a failed construction caches nothing is `C02_failed_ctor_caches_nothing` there.
-/
namespace Godi.Props.C02
open Godi.Container

/-- Cache hit: once a scope's cache holds an instance for a scoped identity, every resolution of it
in that scope — direct, keyed, as a group member (`resolveMembers` calls `resolveDesc`), or as a
constructor argument (`buildArgs` calls `resolve`) — returns that instance and constructs nothing -/
theorem cache_hit (beh : Beh) (st : State) (s f : Nat) (d : Desc) (v : Val) (hl : d.life = .scoped)
    (hc : lookup ((st.scope s).instances.getD []) d.ident = some v) (hva : v ≠ .absent) :
    resolveDesc beh (f + 1) st s d = (st, .ok v) := by
  unfold resolveDesc; simp only [hl, hc]

/-- ... and an identity whose result-object field the constructor left nil is remembered as constructed:
resolving it reports a validation error and constructs nothing (the repair of D15) -/
theorem nil_field_not_constructed_again (beh : Beh) (st : State) (s f : Nat) (d : Desc) (hl : d.life = .scoped)
    (hc : lookup ((st.scope s).instances.getD []) d.ident = some .absent) :
    resolveDesc beh (f + 1) st s d = (st, .error [.validation]) := by
  unfold resolveDesc; simp only [hl, hc]

/-- Cached on creation: storing a scoped instance in an open scope makes the cache answer it -/
theorem stored_is_cached (st : State) (s : Nat) (d : Desc) (v : Val) (hl : d.life = .scoped)
    (m : List (Ident × Val)) (hm : (st.scope s).instances = some m) :
    lookup (((setInstance st s d d.ident v).1.scope s).instances.getD []) d.ident = some v := by
  rw [setInstance_scoped_cached st s d v hl m hm]
  exact lookup_put_self m d.ident v

/-- … and a write for another identity does not disturb it -/
theorem other_identity_undisturbed (m : List (Ident × Val)) (k k' : Ident) (v : Val) (h : k' ≠ k) :
    lookup (cachePut m k v) k' = lookup m k' := lookup_put_ne m k k' v h

/-- Not shared: whatever is resolved through scope `s` — for every registry, behaviour and fuel —
leaves every other scope (siblings, parent, children, the root scope) exactly as it was; in
particular nothing created in `s` ever enters another scope's cache or disposal list -/
theorem other_scopes_untouched (beh : Beh) (st : State) (s ty key : Nat) (wf : WF st.descs) (x : Nat) (hx : x ≠ s) :
    (scopeGet beh st s ty key).1.scope x = st.scope x :=
  (resolve_ext beh _ st s ty key wf).others x hx

/-- the same for a group resolution -/
theorem other_scopes_untouched_group (beh : Beh) (st : State) (s ty grp : Nat) (wf : WF st.descs) (x : Nat) (hx : x ≠ s) :
    (scopeGetGroup beh st s ty grp).1.scope x = st.scope x :=
  (getGroup_ext beh _ st s ty grp wf).others x hx

/-- a new scope starts with an empty cache and an empty disposal list -/
theorem new_scope_is_empty (st : State) (parent : Option Nat) (ctx : Nat) :
    ((allocScope st parent ctx).scope st.nscopes).instances = some [] ∧
    ((allocScope st parent ctx).scope st.nscopes).disposables = some [] := by
  simp [allocScope]

/-- a failed construction caches nothing: when the constructor returns an error or panics, the
cache of the scope is what argument building left (so a retry behaves like a first attempt) -/
theorem failed_construction_not_cached (beh : Beh) (f : Nat) (st : State) (s : Nat) (d : Desc)
    (hk : ∀ v, d.kind ≠ .inst v) (args : List Val)
    (ha : (buildArgs beh f st s d.deps []).2 = .ok args)
    (hb : beh.ctor d.ctor ((buildArgs beh f st s d.deps []).1.invs d.ctor + 1) ≠ .ok) :
    ((createInstance beh (f + 1) st s d).1.scope s).instances =
      ((buildArgs beh f st s d.deps []).1.scope s).instances ∧
    ∃ e, (createInstance beh (f + 1) st s d).2 = .error e := by
  rw [createInstance_of_args beh f st s d hk ha]
  unfold construct
  simp only [bumpInv_invs]
  split
  · exact ⟨rfl, _, rfl⟩
  · exact ⟨rfl, _, rfl⟩
  · exact ⟨rfl, _, rfl⟩
  next hok => exact absurd hok hb

/-- Initializers: `newScope` runs the registered initializers once, at creation, in that scope -/
theorem initializers_run_at_creation (beh : Beh) (st : State) (parent : Option Nat) (ctx : Nat) :
    newScope beh st parent ctx true =
      (match (runInitializers beh (allocScope st parent ctx) st.nscopes st.initializers).2 with
       | .ok _ => ((runInitializers beh (allocScope st parent ctx) st.nscopes st.initializers).1, .ok st.nscopes)
       | .error e => ((closeScope beh id (closeFuel (runInitializers beh (allocScope st parent ctx) st.nscopes st.initializers).1)
            (runInitializers beh (allocScope st parent ctx) st.nscopes st.initializers).1 st.nscopes).1, .error e)) := by
  unfold newScope
  simp only [↓reduceIte]
  rfl

/-- One instance per scope, for whole histories. `Cfg descs rank`: the structural facts the collection
guarantees (`WF`, `RegWF`) and a rank on constructors that strictly decreases along every declared
dependency (plain, keyed, group member, parameter-object field) — it exists when the dependency relation
is acyclic (`ranked_of_verdict`), which Build has checked. For every such registry, every constructor
behaviour (failures and panics at any invocation, result-object fields left nil at any invocation), every
state satisfying the invariant and every history of Get / GetKeyed / GetGroup / CreateScope / Close over
existing scopes (`ValidHist`, `Container/ScopedInit.lean`: every scope id an operation names — to resolve
in, as a parent, to close — is below `nscopes`): in no scope does the
constructor of a scoped registration succeed twice, and once it has succeeded every identity of the
registration (aliases, multiple returns, result fields) is cached in that scope, so every later
resolution there — direct, keyed, via a group, or as an argument — is a cache hit (`cache_hit`).
(Registries with scoped initializer functions: the initializer clause is `initializers_run_at_creation`;
this theorem assumes `st.initializers = []`.) -/
theorem one_instance_per_scope (beh : Beh) (descs : List Desc) (rank : Nat → Nat)
    (cfg : Cfg descs rank) (st : State) (inv : SInv descs st) (hi : st.initializers = [])
    (ops : List Op) (hv : ValidHist beh st ops) (s c : Nat) (hc : ScopedCtor descs c) :
    countIn (run beh st ops).log c s ≤ 1 ∧
    (countIn (run beh st ops).log c s = 1 → ((run beh st ops).scope s).disposed = false →
      ∀ d ∈ descs, d.ctor = c → Cached (run beh st ops) s d.ident) := by
  have h := sinv_run_init beh descs rank cfg ops st inv (by rw [hi]; trivial) hv
  exact ⟨h.atMost s c hc, h.stored s c hc⟩

/-- the invariant holds in every state in which no scoped constructor has run yet, no event names a scope
that does not exist yet, and every open scope has a cache -/
theorem invariant_initially (descs : List Desc) (st : State) (hd : st.descs = descs)
    (hz : ∀ c s, ScopedCtor descs c → countIn st.log c s = 0)
    (hf : ∀ s, st.nscopes ≤ s → ∀ c, countIn st.log c s = 0)
    (ho : ∀ s, (st.scope s).disposed = false → ∃ m, (st.scope s).instances = some m) : SInv descs st :=
  ⟨hd, fun s c hc => by rw [hz c s hc]; exact Nat.zero_le _,
   fun s c hc h1 => by rw [hz c s hc] at h1; exact absurd h1 (by decide), ho, hf⟩

/-- one resolution inside an existing scope preserves the invariant (for every fuel, and with what it may
log — constructor events of that scope only, of rank below a given bound — this is `scopedOnce`) -/
theorem resolution_preserves (beh : Beh) (descs : List Desc) (rank : Nat → Nat)
    (cfg : Cfg descs rank) (st : State) (inv : SInv descs st) (s ty key : Nat) (hs : s < st.nscopes) :
    SInv descs (scopeGet beh st s ty key).1 :=
  sinv_scopeGet beh descs rank cfg st inv s ty key hs

def ex : List Desc :=
  [{ id := 0, ident := ⟨3, 0, 0⟩, life := .scoped, ctor := 1, kind := .plain, deps := [] }]
/-- two resolutions in one scope: one constructor event; a second scope: its own instance -/
example : let st := (providerCreateScope {} (providerCreateScope {} (buildRuntime {} ex []).1 0).1 0).1
    (scopeGet {} (scopeGet {} (scopeGet {} st 1 3 0).1 1 3 0).1 2 3 0).1.log =
      [.ctor 0 1 1 1 [] [1], .ctor 0 1 2 2 [] [2]] := by decide

/-- One instance per scope, registries with scope initializers (`Container/ScopedInit.lean`): the hypothesis
`st.initializers = []` of `one_instance_per_scope` is replaced by `InitsRanked`: the initializer ids name scoped
registrations, and the rank increases strictly along the initializer list (nothing depends on a registration that
provides no service, so a rank that witnesses acyclicity can always be arranged that way). Then every CreateScope of the
history runs each initializer in the fresh scope — closing the scope again when one fails — and still no scoped
constructor, an initializer's included, succeeds twice in one scope. -/
theorem one_instance_per_scope_with_initializers (beh : Beh) (descs : List Desc) (rank : Nat → Nat)
    (cfg : Cfg descs rank) (st : State) (inv : SInv descs st) (hi : InitsRanked descs rank st.initializers)
    (ops : List Op) (hv : ValidHist beh st ops) (s c : Nat) (hc : ScopedCtor descs c) :
    countIn (run beh st ops).log c s ≤ 1 ∧
    (countIn (run beh st ops).log c s = 1 → ((run beh st ops).scope s).disposed = false →
      ∀ d ∈ descs, d.ctor = c → Cached (run beh st ops) s d.ident) := by
  have h := sinv_run_init beh descs rank cfg ops st inv hi hv
  exact ⟨h.atMost s c hc, h.stored s c hc⟩

/-- running initializers in the root scope, open and with a cache, of a state in which their constructors have not
run there yet preserves the invariant -/
theorem root_initializers_preserve (beh : Beh) (descs : List Desc) (rank : Nat → Nat) (cfg : Cfg descs rank)
    (st : State) (inv : SInv descs st) (ho : OpenCache st rootScope) (hs : rootScope < st.nscopes) (inits : List Nat)
    (hi : InitsRanked descs rank inits)
    (hz : ∀ id ∈ inits, ∀ d, findDesc descs id = some d → countIn st.log d.ctor rootScope = 0) :
    SInv descs (runInitializers beh st rootScope inits).1 :=
  (sinv_runInitializers beh descs rank cfg rootScope inits st inv ho hs hi hz).1

/-- a scoped service (constructor 1) and two initializers that both take it (constructors 2 and 3) -/
def exInit : List Desc :=
  [{ id := 0, ident := ⟨3, 0, 0⟩, life := .scoped, ctor := 1, kind := .plain, deps := [] },
   { id := 1, ident := ⟨20, 0, 0⟩, life := .scoped, ctor := 2, kind := .void, deps := [{ ty := 3 }] },
   { id := 2, ident := ⟨21, 0, 0⟩, life := .scoped, ctor := 3, kind := .void, deps := [{ ty := 3 }] }]
/-- non-vacuity of `InitsRanked`: the rank "constructor number" increases along the initializer list [1, 2] -/
example : InitsRanked exInit (fun c => c) [1, 2] := by
  refine ⟨fun d h => ?_, ⟨fun d h => ?_, trivial⟩⟩
  · have e : d = { id := 1, ident := ⟨20, 0, 0⟩, life := .scoped, ctor := 2, kind := .void, deps := [{ ty := 3 }] } := by
      simp [findDesc, exInit] at h; exact h.symm
    subst e
    refine ⟨rfl, ?_⟩
    intro id' hid' d' hd'
    simp only [List.mem_singleton] at hid'
    subst hid'
    have e' : d' = { id := 2, ident := ⟨21, 0, 0⟩, life := .scoped, ctor := 3, kind := .void, deps := [{ ty := 3 }] } := by
      simp [findDesc, exInit] at hd'; exact hd'.symm
    subst e'
    decide
  · have e : d = { id := 2, ident := ⟨21, 0, 0⟩, life := .scoped, ctor := 3, kind := .void, deps := [{ ty := 3 }] } := by
      simp [findDesc, exInit] at h; exact h.symm
    subst e
    exact ⟨rfl, fun id' hid' => by cases hid'⟩
/-- Build runs both initializers in the root scope (s0); a new scope runs them again, there: the service they share is
constructed once per scope, each initializer once per scope -/
example : let st := (providerCreateScope {} (buildRuntime {} exInit []).1 0).1
    st.initializers = [1, 2] ∧
    (countIn st.log 1 0, countIn st.log 2 0, countIn st.log 3 0, countIn st.log 1 1, countIn st.log 2 1, countIn st.log 3 1) =
      (1, 1, 1, 1, 1, 1) := by decide

end Godi.Props.C02
