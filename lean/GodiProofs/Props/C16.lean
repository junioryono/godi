import GodiProofs.Middleware.Seq
/-!
# C16 — web middleware: one scope per request, visible to handlers, always closed

Every theorem below is about `Godi.Mw.integrations` = the five integrations whose programs
(`Gen.<fw>ScopeMw`, `Gen.<fw>Handle`, `Gen.<fw>Opts`) are regenerated from `/repo/<fw>/<fw>.go` by
`extract/` before every build, and is quantified over every request `rq : Req`:

* `rq.installed`            is the scope middleware in the chain at all
* `rq.nMw`, `rq.mwFail`     any number of configured middlewares, any (or no) failing index
* `rq.create`               `CreateScope` succeeds / fails / the provider is already closed
* `rq.down`, `rq.outcome`   plain handler or `Handle(method, WithPanicRecovery(b))` (with or without a
                            resolution failure); handler returns / fails / panics
* `rq.closeErr`             `scope.Close()` reports an error
* `rq.outer`                the incoming request context already carries somebody else's scope
                            (`rq.WF`: considered for requests that pass the scope middleware)
* `base`                    the identity the provider gives to the next scope

so "every exit path" (normal return, middleware error at position i, handler error, handler panic,
scope-creation failure, provider closed) is the universal quantifier over `rq`. The exit-path
vocabulary (`created`, `reaches`, `invoked`, `panicEscapes`, `panicRecovered`, `ranCount`,
`mwFails`) is defined by plain case distinctions on `rq`: `created` in `Middleware/Spec.lean`,
`ranCount` and `mwFails` in `Loop.lean`, the rest in `SpecProps.lean`.

The per-framework behaviour around the extracted functions that is modelled and not verified is the
record `Facts` in `GodiModel/Middleware.lean` (gin continues the chain unless aborted; fasthttp
closes `io.Closer` locals at the end of the request). Isolation of *scoped instances* between
scopes is C02; here: no two requests ever see the same scope.
-/
namespace Godi.Props.C16
open Godi.Mw

/-- Exactly one scope per request. A request that passes the scope middleware makes exactly one
`CreateScope` call; when it succeeds exactly one scope — the fresh one — exists for the request,
otherwise none. -/
theorem C16_one_scope : ∀ I ∈ integrations, ∀ (rq : Req), rq.WF → ∀ (base : Sid),
    createAttempts (I.trace rq base) = (if rq.installed then 1 else 0) ∧
    createdScopes (I.trace rq base) = (if created rq then [base] else []) := by
  intro I hI rq hw base
  rw [trace_eq hI rq hw]
  refine ⟨?_, spec_created _ rq base⟩
  rw [createAttempts, countP_specTrace fun _ => rfl]
  simp only [Ev.isAttempt, Bool.and_false, Bool.and_true, Bool.toNat_false, Nat.add_zero, created]
  cases rq.installed <;> cases decide (rq.create = .ok) <;> rfl

/-- That scope is the one everybody sees. (1) no event of the request mentions any other scope;
(2) every configured middleware that runs gets it as argument AND finds it in the request context
(and in the locals where the integration uses them), the plain handler finds it in the context, and
`Handle` looks up / resolves from / calls the method with exactly it — all while it is still open;
(3) the configured middlewares run in configuration order `0, 1, …`, stopping after the failing one. -/
theorem C16_same_scope_everywhere : ∀ I ∈ integrations, ∀ (rq : Req), rq.WF → ∀ (base : Sid),
    (∀ e ∈ I.trace rq base, ∀ x ∈ e.seen, x = base) ∧
    (created rq = true → ∀ e ∈ I.trace rq base, e.seesFully (usesLocals I) base = true) ∧
    mwIndices (I.trace rq base) = (if created rq then List.range (ranCount rq) else []) := by
  intro I hI rq hw base
  rw [trace_eq hI rq hw, usesLocals_style I hI]
  refine ⟨spec_seen _ rq base, fun hc => ?_, ?_⟩
  · have hl : (!decide (styleOf I = .inline) || locOf (styleOf I) base == some base) = true := by
      cases styleOf I <;> simp [locOf]
    refine forall_specTrace_of_created hc ?_ (fun i => ?_)
        (forall_specTail ?_ ?_ ?_ ?_ (forall_downSpec_some ?_ ?_ ?_ ?_ ?_ ?_)) <;>
      simp only [Ev.seesFully, beq_self_eq_true, Bool.and_self, hl]
  · cases hc : created rq
    · exact List.filterMap_eq_nil_iff.2 (forall_specTrace_of_not_created hc rfl rfl rfl rfl rfl)
    · rw [specTrace_created hc, mwIndices_cons, mwIndices_append, mwIndices_mwEvs, tail_mwIndices, List.range_eq_range']
      exact List.append_nil _

/-- Closed exactly once, on every exit path, never early. By the end of the request the
request's scope has been closed exactly once (and nothing else has been closed), whatever the
request does; and no middleware, handler, `Handle` lookup/resolution or controller method uses the
scope after the event that closed it. -/
theorem C16_closed_once : ∀ I ∈ integrations, ∀ (rq : Req), rq.WF → ∀ (base : Sid),
    (∀ x, closes (I.trace rq base) x = (if created rq ∧ base = x then 1 else 0)) ∧
    noUseAfterClose (I.trace rq base) [] = true := by
  intro I hI rq hw base
  rw [trace_eq hI rq hw]
  refine ⟨fun x => spec_closes _ rq base x, ?_⟩
  cases hc : created rq
  · rw [← List.append_nil (specTrace ..), noUse_append_of_noClose _ _ (List.countP_eq_zero.2 (forall_specTrace_of_not_created hc
      Bool.false_ne_true Bool.false_ne_true Bool.false_ne_true Bool.false_ne_true Bool.false_ne_true))]
    rfl
  · rw [specTrace_created hc, ← List.cons_append]
    exact tail_noUse _ (by simp only [countP_cons_toNat, cnt_anyclose, Ev.isAnyClose, Bool.toNat_false])

/-- Error handler instead of the handler. If the scope cannot be created (failure or closed
provider) or a configured middleware fails, the error handler runs exactly once and the routed
handler does not run at all; otherwise the error handler does not run and the handler runs exactly
once. (`reaches rq = !installed || (create = ok && no middleware fails)`.) -/
theorem C16_error_handler_instead : ∀ I ∈ integrations, ∀ (rq : Req), rq.WF → ∀ (base : Sid),
    errorHandlerRuns (I.trace rq base) = (if rq.installed && !reaches rq then 1 else 0) ∧
    downRuns (I.trace rq base) = (if reaches rq then 1 else 0) := by
  intro I hI rq hw base
  rw [trace_eq hI rq hw, errorHandlerRuns, downRuns, countP_specTrace fun _ => rfl, countP_specTrace fun _ => rfl]
  simp only [Ev.isErrorHandler, Ev.isDownEntry, Bool.and_false, Bool.and_true, Bool.toNat_false, Nat.add_zero, Nat.zero_add, ne_eq,
    decide_not]
  refine ⟨toNat_eq_ite _, ?_⟩
  -- the three ways of entering the handler partition `reaches`
  cases hi : rq.installed
  · rw [show reaches rq = true by rw [reaches, hi]; rfl]
    cases decide (rq.down = .plain) <;> rfl
  · cases reaches rq <;> cases decide (rq.down = .plain) <;> rfl

/-- Handle: resolve first, then call; otherwise exactly one error handler. The controller
method is only called with a controller resolved earlier in the same request (from the request's
scope, by `C16_same_scope_everywhere`); whenever the `Handle` wrapper runs exactly one of
{method called, scope-error handler, resolution-error handler} happens: the scope-error handler iff
there is no scope middleware, the resolution-error handler iff resolution fails. -/
theorem C16_handle_order : ∀ I ∈ integrations, ∀ (rq : Req), rq.WF → ∀ (base : Sid),
    methodAfterResolve (I.trace rq base) [] = true ∧
    methodCalls (I.trace rq base) = (if invoked rq && rq.down ≠ .plain then 1 else 0) ∧
    scopeErrs (I.trace rq base) = (if !rq.installed && rq.down ≠ .plain then 1 else 0) ∧
    resolutionErrs (I.trace rq base) =
      (if reaches rq && rq.installed && (match rq.down with | .plain => false | .handle _ rf => rf) then 1 else 0) ∧
    (rq.down ≠ .plain →
      methodCalls (I.trace rq base) + scopeErrs (I.trace rq base) + resolutionErrs (I.trace rq base)
        = (if reaches rq then 1 else 0)) := by
  intro I hI rq hw base
  rw [trace_eq hI rq hw, methodCalls, scopeErrs, resolutionErrs, countP_specTrace fun _ => rfl, countP_specTrace fun _ => rfl,
    countP_specTrace fun _ => rfl]
  simp only [Ev.isMethod, Ev.isScopeErr, Ev.isResolutionErr, Bool.and_false, Bool.and_true, Bool.toNat_false, Nat.add_zero,
    Nat.zero_add]
  refine ⟨?_, toNat_eq_ite _, toNat_eq_ite _, toNat_eq_ite _, ?_⟩
  · cases hc : created rq
    · exact methodAfter_of_noMethod _ _ (List.countP_eq_zero.2 (forall_specTrace_of_not_created hc
        Bool.false_ne_true Bool.false_ne_true Bool.false_ne_true Bool.false_ne_true Bool.false_ne_true))
    · rw [specTrace_created hc]
      simp only [methodAfterResolve, methodAfter_mwEvs_append, tail_methodAfter]
  rw [invoked]
  rcases rq.down with _ | ⟨r, rf⟩
  · exact fun hd => absurd rfl hd
  · intro _
    -- without the scope middleware the request reaches `Handle` anyway
    cases hi : rq.installed
    · rw [show reaches rq = true by rw [reaches, hi]; rfl]
      cases rf <;> rfl
    · cases reaches rq <;> cases rf <;> rfl

/-- Panics are swallowed iff recovery is enabled. A panic of the controller method is handled
by the panic handler exactly when `WithPanicRecovery(true)`; otherwise (and for plain handlers) it
leaves the stack — after the scope has been closed (`C16_closed_once` holds on that path too). No
panic appears out of nowhere. -/
theorem C16_recover_iff_enabled : ∀ I ∈ integrations, ∀ (rq : Req), rq.WF → ∀ (base : Sid),
    panicsOut (I.trace rq base) = (if panicEscapes rq then 1 else 0) ∧
    panicHandlers (I.trace rq base) = (if panicRecovered rq then 1 else 0) := by
  intro I hI rq hw base
  rw [trace_eq hI rq hw, panicsOut, panicHandlers, countP_specTrace fun _ => rfl, countP_specTrace fun _ => rfl]
  simp only [Ev.isPanicOut, Ev.isPanicHandler, Bool.and_false, Bool.and_true, Bool.toNat_false, Nat.add_zero, Nat.zero_add]
  exact ⟨toNat_eq_ite _, toNat_eq_ite _⟩

/-- the extracted programs never dereference the nil `scope` variable and contain no statement the
extractor did not recognise (on any path) -/
theorem C16_no_nil_no_unknown : ∀ I ∈ integrations, ∀ (rq : Req), rq.WF → ∀ (base : Sid),
    (I.trace rq base).countP Ev.isBad = 0 := by
  intro I hI rq hw base
  rw [trace_eq hI rq hw, countP_specTrace fun _ => rfl]
  simp only [Ev.isBad, Bool.and_false, Bool.toNat_false]

/-! ## request sequences and concurrent batches -/

/-- Request sequences. For any list of requests served one after the other on the same
provider: every request has its own trace; the scopes created are pairwise distinct (a request never
gets a scope an earlier one had); whatever scope any event of a request mentions is the scope
created in that very request, and it is closed exactly once within that request. -/
theorem C16_sequences : ∀ I ∈ integrations, ∀ (rqs : List Req), (∀ rq ∈ rqs, rq.WF) →
    (I.runSeq {} rqs).length = rqs.length ∧
    ((I.runSeq {} rqs).flatMap createdScopes).Pairwise (· < ·) ∧
    (∀ t ∈ I.runSeq {} rqs, ∀ e ∈ t, ∀ x ∈ e.seen, createdScopes t = [x] ∧ closes t x = 1) := by
  intro I hI rqs hw
  obtain ⟨a, b, _, d⟩ := seq_aux hI rqs {} (by intro x hx; cases hx) hw
  exact ⟨a, b, d⟩

/-- Concurrent batches. For any injective assignment `alloc` of scope identities to the requests of a batch, no
scope mentioned by one request is mentioned by another (each request mentions only its own identity:
`C16_same_scope_everywhere`). -/
theorem C16_concurrent_disjoint : ∀ I ∈ integrations, ∀ (n : Nat) (rq : Fin n → Req) (alloc : Fin n → Sid),
    Function.Injective alloc → (∀ i, (rq i).WF) →
    ∀ i j, i ≠ j → ∀ e ∈ I.trace (rq i) (alloc i), ∀ e' ∈ I.trace (rq j) (alloc j), ∀ x ∈ e.seen, x ∉ e'.seen := by
  intro I hI n rq alloc hinj hw i j hij e he e' he' x hx hx'
  have h1 := (C16_same_scope_everywhere I hI (rq i) (hw i) (alloc i)).1 e he x hx
  have h2 := (C16_same_scope_everywhere I hI (rq j) (hw j) (alloc j)).1 e' he' x hx'
  exact hij (hinj (h1.symm.trans h2))

/-- Configuration order. `ScopeMiddleware(provider, opts...)` configures the middlewares in the
order of the `WithMiddleware` options (so index `i` in `mwIndices` is the i-th option given). -/
theorem C16_configuration_order : ∀ I ∈ integrations, ∀ (opts : List Opt),
    configured I.opts opts = some (opts.filterMap Opt.mw?) := by
  intro I hI opts
  have hsh : I.opts = ⟨true, true, true⟩ := by
    revert I; decide +kernel
  have gen : ∀ (l : List Opt) (acc : List Nat), l.foldl applyOpt acc = acc ++ l.filterMap Opt.mw? := by
    intro l
    induction l with
    | nil => intro acc; simp
    | cons o l ih => intro acc; cases o <;> simp [ih, applyOpt, Opt.mw?, List.filterMap_cons]
  simp only [configured, hsh, Bool.and_self, if_true, gen, List.nil_append]

/-! ## the theorems discriminate: nearby programs and weaker facts violate them -/

/-- gin's middleware as it was before `c.Abort()` was added (defect D20) -/
def ginWithoutAbort : Integration :=
  { gin with mw := gin.mw.map fun
      | .ifCreateErr b => .ifCreateErr (b.filter (· ≠ .abort))
      | .forMiddlewares b => .forMiddlewares (b.filter (· ≠ .abort))
      | s => s }

/-- without `c.Abort()`, under gin's chain semantics, the route handler runs after the error handler, on a scope
that is already closed -/
theorem C16_gin_needs_abort :
    downRuns (ginWithoutAbort.trace { nMw := 1, mwFail := some 0 } 0) = 1 ∧
    noUseAfterClose (ginWithoutAbort.trace { nMw := 1, mwFail := some 0 } 0) [] = false := by decide +kernel

/-- without fasthttp closing `io.Closer` locals, fiber's inline Close would leak the scope when the
handler panics: the trusted fact is necessary, not decoration -/
theorem C16_fiber_panic_path_needs_request_end_close :
    closes ((runRequest { fiberFacts with requestEndClosesLocals := false } fiber.mw fiber.handle
      { outcome := .panic } 0).trace) 0 = 0 := by decide +kernel

/-! ## non-vacuity: concrete requests -/

example : gin.trace { nMw := 2, mwFail := some 1 } 7 =
    [.scopeCreated 7, .mwRan 0 (some 7) (some 7) none, .mwRan 1 (some 7) (some 7) none, .errorHandlerRan, .scopeClosed 7] := by decide +kernel

example : fiber.trace { nMw := 1, down := .handle false false, outcome := .panic } 3 =
    [.scopeCreated 3, .mwRan 0 (some 3) (some 3) (some 3), .handleScope 3, .handleResolved 3,
     .methodCalled (some 3) true, .panicPropagated, .scopeClosed 3] := by decide +kernel

example : http.trace { down := .handle true false, outcome := .panic, closeErr := true } 0 =
    [.scopeCreated 0, .handleScope 0, .handleResolved 0, .methodCalled (some 0) true, .panicHandler,
     .scopeClosed 0, .closeErrHandlerRan] := by decide +kernel

/-- a request whose context already carries scope 5 still gets its own fresh scope 9, and that is
what everybody sees -/
example : http.trace { nMw := 1, outer := some 5 } 9 =
    [.scopeCreated 9, .mwRan 0 (some 9) (some 9) none, .handlerRan (some 9) none true, .scopeClosed 9] := by decide +kernel

example : echo.trace { create := .provClosed, nMw := 3 } 0 = [.createFailed, .errorHandlerRan] := by decide +kernel

example : chi.trace { installed := false, down := .handle false false } 0 = [.scopeErrHandler] := by decide +kernel

example : (gin.runSeq {} [{ nMw := 1 }, { create := .fail }, { mwFail := some 0, nMw := 1 }]).flatMap createdScopes = [0, 1] := by decide +kernel

end Godi.Props.C16
