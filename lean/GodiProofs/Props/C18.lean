import GodiProofs.Container.Stable
/-!
# C18 — Built-in injectables and context linkage are scope-correct

Model M5: `context.Context`, `Provider`, `Scope` are type ids 0, 1, 2 (`tyCtx`, `tyProvider`,
`tyScope`); a resolved context is `Val.ctx s` = "the context of scope `s`". The context *tree*
(values and cancellation inherited from the context passed to `CreateScope`, `FromContext` on
derived contexts) is Go's `context` package and is observed by the harness monitors, not modelled —
see the trusted base. That the three types cannot be registered is `Registered.not_reserved`
(`Collection/Inv.lean`) plus the monitor of the collection harness.
-/
namespace Godi.Props.C18
open Godi.Container

/-- in any open scope, at any time, whatever is registered: `context.Context` resolves to the scope's own
context, and resolving it changes nothing -/
theorem builtin_context (beh : Beh) (st : State) (s f : Nat) (h : (st.scope s).disposed = false) :
    resolve beh (f + 1) st s tyCtx 0 = (st, .ok (.ctx s)) := by
  unfold resolve; simp [h]

/-- … `Provider` to the root provider -/
theorem builtin_provider (beh : Beh) (st : State) (s f : Nat) (h : (st.scope s).disposed = false) :
    resolve beh (f + 1) st s tyProvider 0 = (st, .ok .provider) := by
  unfold resolve; simp [h, tyProvider, tyCtx]

/-- … and `Scope` to that very scope -/
theorem builtin_scope (beh : Beh) (st : State) (s f : Nat) (h : (st.scope s).disposed = false) :
    resolve beh (f + 1) st s tyScope 0 = (st, .ok (.scope s)) := by
  unfold resolve; simp [h, tyScope, tyCtx, tyProvider]

/-- as a constructor parameter or parameter-object field of anything constructed in scope `s`:
the argument vector receives exactly those values, in declaration position -/
theorem builtin_injected (beh : Beh) (st : State) (s f : Nat) (deps : List Dep) (acc : List Val)
    (opt : Bool) (h : (st.scope s).disposed = false) :
    buildArgs beh (f + 2) st s ({ ty := tyScope, optional := opt } :: deps) acc =
      buildArgs beh (f + 1) st s deps (acc ++ [.scope s]) ∧
    buildArgs beh (f + 2) st s ({ ty := tyCtx, optional := opt } :: deps) acc =
      buildArgs beh (f + 1) st s deps (acc ++ [.ctx s]) ∧
    buildArgs beh (f + 2) st s ({ ty := tyProvider, optional := opt } :: deps) acc =
      buildArgs beh (f + 1) st s deps (acc ++ [.provider]) := by
  refine ⟨?_, ?_, ?_⟩
  · conv => lhs; unfold buildArgs
    simp [builtin_scope beh st s f h]
  · conv => lhs; unfold buildArgs
    simp [builtin_context beh st s f h]
  · conv => lhs; unfold buildArgs
    simp [builtin_provider beh st s f h]

/-- keyed requests for a built-in type are ordinary look-ups: nothing registered ⇒ not found -/
theorem keyed_builtin_not_found (beh : Beh) (st : State) (s f ty key : Nat) (hk : key ≠ 0)
    (h : (st.scope s).disposed = false) (hn : findService st.descs ty key = none) :
    resolve beh (f + 1) st s ty key = (st, .error [.resolution, .notFound]) := by
  unfold resolve; simp [h, hk, hn]

/-- singletons are constructed through the root scope: the creation loop of `Build` creates a singleton that is
not in the table yet with `createInstance … rootScope` (so by `builtin_injected` it receives the root scope and
its context) -/
theorem singletons_built_in_root (beh : Beh) (st : State) (id : Nat) (rest : List Nat) (d : Desc)
    (hd : findDesc st.descs id = some d) (hl : d.life = .singleton) (hn : lookup st.singletons d.ident = none) :
    createSingletons beh st (id :: rest) =
      (match (createInstance beh (fuelFor st) st rootScope d).2 with
       | .ok _ => createSingletons beh (createInstance beh (fuelFor st) st rootScope d).1 rest
       | .error e => ((createInstance beh (fuelFor st) st rootScope d).1, .error (.resolution :: e))) := by
  conv => lhs; unfold createSingletons
  simp only [hd, hl, hn]
  generalize createInstance beh (fuelFor st) st rootScope d = r
  obtain ⟨st1, res⟩ := r
  cases res <;> simp

/-! non-vacuity: a scoped service taking (Scope, Context), resolved in a child scope s1 -/
def exDescs : List Desc :=
  [{ id := 0, ident := ⟨3, 0, 0⟩, life := .scoped, ctor := 1, kind := .plain,
     deps := [{ ty := tyScope }, { ty := tyCtx }] }]

example : ((scopeGet {} (providerCreateScope {} (buildRuntime {} exDescs []).1 0).1 1 3 0).1.log) =
    [.ctor 0 1 1 1 [.scope 1, .ctx 1] [1]] := by decide

end Godi.Props.C18
