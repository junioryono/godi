import GodiProofs.Container.Stable
import GodiProofs.Container.BuildOnce
import GodiProofs.Container.HypSound
/-!
# C01 — Singleton: constructed exactly once, the same instance everywhere

Model: `GodiModel/Container.lean` (M5). `st` ranges over *all* states with well-formed descriptors
(`WF`: descriptors of one registration share a lifetime, ids are unique) and scoped initializers
(`InitOK`) — every state a successful `Build` produces satisfies both (`build_ledger` in
`Container/BuildLedger.lean`: it keeps the registry it was given, and its initializers are scoped) —
`beh` over all constructor/Close behaviours, `ops` over all histories of Get / GetKeyed / GetGroup /
CreateScope (provider or nested, any context) / Scope.Close at any nesting depth.

The concurrent clause ("also under concurrent requests") is `C01_table_stable_conc` of the
interleaving model M6 (`Conc/Clauses.lean`); the memory-model guarantee that lock-free readers see
the Build-time writes of `sync.Map` is runtime behaviour outside any Lean model.
-/
namespace Godi.Props.C01
open Godi.Container

/-- Never again: after Build, no history makes a constructor of a singleton registration run:
every event any history appends to the log belongs to a scoped or transient descriptor. -/
theorem ctor_never_again (beh : Beh) (st : State) (ops : List Op) (wf : WF st.descs) (i : InitOK st) :
    ∃ new, (run beh st ops).log = st.log ++ new ∧ ∀ e ∈ new, EventNonSingleton st.descs e :=
  (run_stable beh ops st wf i).log

/-- The table is frozen: no history changes which instance a singleton identity maps to. -/
theorem table_stable (beh : Beh) (st : State) (ops : List Op) (wf : WF st.descs) (i : InitOK st) :
    (run beh st ops).singletons = st.singletons :=
  (run_stable beh ops st wf i).singletons

/-- Same instance everywhere: whatever happened since Build, resolving a singleton identity by type
or key from any open scope at any depth yields exactly the instance Build stored for it (and changes
nothing; `hva`: the identity is not that of a result-object field the constructor left nil). Constructor
parameters are resolved through the very same function (`buildArgs` calls `resolve`), so injected singletons are
that instance too. -/
theorem same_instance (beh : Beh) (st : State) (ops : List Op) (wf : WF st.descs) (i : InitOK st)
    (s ty key : Nat) (d : Desc) (v : Val)
    (hd : findService st.descs ty key = some d) (hl : d.life = .singleton)
    (hv : lookup st.singletons d.ident = some v) (hva : v ≠ .absent)
    (hopen : ((run beh st ops).scope s).disposed = false)
    (hnb : ¬ (key = 0 ∧ ty < 3)) :
    scopeGet beh (run beh st ops) s ty key = (run beh st ops, .ok v) := by
  have hs := run_stable beh ops st wf i
  generalize run beh st ops = st' at hs hopen
  unfold scopeGet
  obtain ⟨f, hf⟩ : ∃ f, fuelFor st' = (f + 1) + 1 :=
    ⟨fuelFor st' - 2, by have : 16 ≤ fuelFor st' := Nat.le_add_left _ _; omega⟩
  rw [hf]
  unfold resolve
  simp only [hopen, Bool.false_eq_true, ↓reduceIte]
  have h0 : ¬ (key = 0 ∧ ty = tyCtx) := fun h => hnb ⟨h.1, by rw [h.2]; decide⟩
  have h1 : ¬ (key = 0 ∧ ty = tyProvider) := fun h => hnb ⟨h.1, by rw [h.2]; decide⟩
  have h2 : ¬ (key = 0 ∧ ty = tyScope) := fun h => hnb ⟨h.1, by rw [h.2]; decide⟩
  simp only [h0, h1, h2, ↓reduceIte, hs.descs, hd]
  unfold resolveDesc
  simp only [hl, hs.singletons, hv]

/-- the same through a group: a singleton member of a group is looked up, never constructed -/
theorem same_instance_member (beh : Beh) (st : State) (f s : Nat) (d : Desc) (v : Val)
    (hl : d.life = .singleton) (hv : lookup st.singletons d.ident = some v) (hva : v ≠ .absent) :
    resolveDesc beh (f + 1) st s d = (st, .ok v) := by
  unfold resolveDesc
  simp only [hl, hv]

/-- Exactly once during Build: for every registration list satisfying the structural facts the
collection guarantees (`WF`, `RegWF`), every creation order the graph may produce that covers the
singleton descriptors, and every constructor behaviour: if the run-time phases of Build succeed, the
constructor of every (non-instance) singleton registration has succeeded exactly once — also when it
yields several services (multiple returns, result object, aliases: all descriptors of a registration
share the constructor id) — and no constructor of singleton registrations has succeeded twice.
(A result-object field left nil makes Build fail for a singleton registration — the model's `markAbsent`,
repaired defect D15 — so the statement needs no hypothesis about nil fields.) -/
theorem build_runs_each_singleton_ctor_exactly_once (beh : Beh) (descs : List Desc) (order : List Nat)
    (wf : WF descs) (rw' : RegWF descs) (st : State) (h : buildRuntime beh descs order = (st, .ok ())) :
    (∀ c, SingCtor descs c → ctorCount st.log c ≤ 1) ∧
    (∀ d ∈ descs, d.life = .singleton → (∀ v, d.kind ≠ .inst v) → d.id ∈ order → ctorCount st.log d.ctor = 1) := by
  obtain ⟨st2, h2, h4⟩ := buildRuntime_ok h
  have inv0 : BuildInv descs (buildStart descs) :=
    ⟨rfl, fun c _ => Nat.zero_le _, fun c _ h => (by cases h), fun d _ _ _ h => (by cases h)⟩
  have spec := createSingletons_spec beh descs wf rw' order _ inv0
  rw [h2] at spec
  obtain ⟨inv, _, hst⟩ := spec
  dsimp only at inv hst
  -- the root scope's initializers only add events of scoped descriptors
  have hstable := runInitializers_stable beh rootScope ((descs.filter isInitializer).map (·.id))
    { st2 with initializers := (descs.filter isInitializer).map (·.id) } (inv.descsEq ▸ wf)
    (fun id hid d hd => initializers_scoped descs wf id hid d (by rw [← inv.descsEq]; exact hd))
  rw [h4] at hstable
  obtain ⟨new, hlog, hnew⟩ := hstable.log
  have hcnt : ∀ c, SingCtor descs c → ctorCount st.log c = ctorCount st2.log c := by
    intro c hc
    rw [hlog]
    show ctorCount (st2.log ++ new) c = _
    rw [ctorCount_append, ctorCount_nonSingleton st2.descs new c (by rw [inv.descsEq]; exact hc) hnew]
    rfl
  refine ⟨fun c hc => by rw [hcnt c hc]; exact inv.atMost c hc, ?_⟩
  intro d hd hl hk hin
  rw [hcnt d.ctor (singCtor_of descs wf rw' d hd hl)]
  exact inv.counted d hd hl hk (hst rfl d.id hin d (wf.uniqueIds d hd) hl)

/-! non-vacuity: a two-service configuration (singleton 0 ← transient 1) -/
def exDescs : List Desc :=
  [{ id := 0, ident := ⟨3, 0, 0⟩, life := .singleton, ctor := 1, kind := .plain, deps := [] },
   { id := 1, ident := ⟨4, 0, 0⟩, life := .transient, ctor := 2, kind := .plain, deps := [{ ty := 3 }] }]

/-- Build stores the singleton in the table -/
example : (lookup (buildRuntime {} exDescs [0, 1]).1.singletons ⟨3, 0, 0⟩) = some (.inst 1) := by decide
/-- the structural hypotheses are satisfiable: the example registry meets `WF` and `RegWF` -/
example : WF exDescs ∧ RegWF exDescs :=
  have h := hyps_of_check (descs := exDescs) (by decide)
  ⟨h.1, h.2.1⟩
/-- the transient that depends on it resolves from the root scope after Build -/
example : okIs (scopeGet {} (buildRuntime {} exDescs [0, 1]).1 0 4 0).2 (.inst 2) = true := by decide

end Godi.Props.C01
