import GodiProofs.Props.C02
/-!
# C15 — Failures are returned, classifiable errors — never panics or partial state

In M5 every operation returns `State × Except Err _`: there is no panic outcome left in the model
because the repaired code guards every partial operation (nil-map writes, `reflect.Set` of a
non-assignable value) — that the *implementation* does not panic is what the harness's `recover`
around every call and the correspondence check (an escaped panic is the observation `panic`, which the
model never prints) establish. `Err` is the list of godi's error layers that `errors.Is/As` can reach.
-/
namespace Godi.Props.C15
open Godi.Container

/-- a constructor that returns an error is reported as an invocation error wrapping *its* error -/
theorem ctor_error_wrapped (beh : Beh) (f : Nat) (st : State) (s : Nat) (d : Desc) (hk : ∀ v, d.kind ≠ .inst v)
    (args : List Val) (ha : (buildArgs beh f st s d.deps []).2 = .ok args)
    (hb : beh.ctor d.ctor ((buildArgs beh f st s d.deps []).1.invs d.ctor + 1) = .err) :
    (createInstance beh (f + 1) st s d).2 = .error [.invocation, .injected d.ctor] := by
  rw [createInstance_of_args beh f st s d hk ha]
  unfold construct
  simp only [bumpInv_invs, hb]

/-- a constructor that panics is reported as a panic error -/
theorem ctor_panic_reported (beh : Beh) (f : Nat) (st : State) (s : Nat) (d : Desc) (hk : ∀ v, d.kind ≠ .inst v)
    (args : List Val) (ha : (buildArgs beh f st s d.deps []).2 = .ok args)
    (hb : beh.ctor d.ctor ((buildArgs beh f st s d.deps []).1.invs d.ctor + 1) = .panic) :
    (createInstance beh (f + 1) st s d).2 = .error [.panicL] := by
  rw [createInstance_of_args beh f st s d hk ha]
  unfold construct
  simp only [bumpInv_invs, hb]

/-- Wrappers keep the cause: the error of argument building travels outward with the consumer's invocation layer
added in front, so every sentinel and typed layer of the cause stays reachable -/
theorem cause_reachable_through_invocation (beh : Beh) (f : Nat) (st : State) (s : Nat) (d : Desc) (hk : ∀ v, d.kind ≠ .inst v)
    (e : Err) (ha : (buildArgs beh f st s d.deps []).2 = .error e) :
    (createInstance beh (f + 1) st s d).2 = .error (.invocation :: e) := by
  rw [createInstance_succ]
  split
  next v hv => exact absurd hv (hk v)
  · simp only [ha]

/-- … and through group resolution: a member's error is wrapped in a resolution layer -/
theorem cause_reachable_through_group (beh : Beh) (f : Nat) (st : State) (s : Nat) (d : Desc) (ds : List Desc)
    (acc : List Inst) (e : Err) (h : (resolveDesc beh f st s d).2 = .error e) :
    (resolveMembers beh (f + 1) st s (d :: ds) acc).2 = .error (.resolution :: e) := by
  conv => lhs; unfold resolveMembers
  simp only [h]

/-- the Build wrapper: validation failures are `BuildError`s whose cause is the specific error -/
theorem build_errors_classified (descs : List Desc) :
    (verdict descs = .circular → verdictErr (verdict descs) = [.build, .circular]) ∧
    (verdict descs = .lifetime → verdictErr (verdict descs) = [.build, .lifetimeConflict]) ∧
    (verdict descs = .missing → verdictErr (verdict descs) = [.build, .resolution, .notFound]) := by
  refine ⟨fun h => by rw [h]; rfl, fun h => by rw [h]; rfl, fun h => by rw [h]; rfl⟩

/-- "disposed" is distinguishable: the bare sentinels -/
theorem disposed_errors (beh : Beh) (st : State) (s ty key : Nat) :
    ((st.scope s).disposed = true → (scopeGet beh st s ty key).2 = .error [.scopeDisposed]) ∧
    (st.disposed = true → (providerGet beh st ty key).2 = .error [.providerDisposed]) := by
  refine ⟨fun h => ?_, fun h => ?_⟩
  · unfold scopeGet fuelFor resolve; simp [h]
  · unfold providerGet; simp [h]

/-- Not cached: a failed construction leaves the cache as argument building left it, and the call reports an error -/
theorem failure_not_cached (beh : Beh) (f : Nat) (st : State) (s : Nat) (d : Desc)
    (hk : ∀ v, d.kind ≠ .inst v) (args : List Val)
    (ha : (buildArgs beh f st s d.deps []).2 = .ok args)
    (hb : beh.ctor d.ctor ((buildArgs beh f st s d.deps []).1.invs d.ctor + 1) ≠ .ok) :
    ((createInstance beh (f + 1) st s d).1.scope s).instances =
      ((buildArgs beh f st s d.deps []).1.scope s).instances ∧
    ∃ e, (createInstance beh (f + 1) st s d).2 = .error e :=
  Godi.Props.C02.failed_construction_not_cached beh f st s d hk args ha hb

def ex : List Desc :=
  [{ id := 0, ident := ⟨3, 0, 0⟩, life := .transient, ctor := 1, kind := .plain, deps := [] },
   { id := 1, ident := ⟨4, 0, 0⟩, life := .scoped, ctor := 2, kind := .plain, deps := [{ ty := 3 }] }]
/-- the dependency's constructor fails on its first invocation -/
def exBeh : Beh := { ctor := fun c n => if c = 1 ∧ n = 1 then .err else .ok }
def errIs (r : Except Err Val) (e : Err) : Bool := match r with | .error e' => e' == e | .ok _ => false
/-- the consumer's error carries it -/
example : errIs (scopeGet exBeh (buildRuntime exBeh ex []).1 0 4 0).2 [.invocation, .invocation, .injected 1] = true := by decide
/-- the retry (second invocation succeeds) answers like a first attempt -/
example : okIs (scopeGet exBeh (scopeGet exBeh (buildRuntime exBeh ex []).1 0 4 0).1 0 4 0).2 (.inst 2) = true := by decide

end Godi.Props.C15
