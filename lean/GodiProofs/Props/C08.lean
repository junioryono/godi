import GodiProofs.Props.C07
import GodiProofs.Container.NoNotFound
import GodiProofs.Container.BuildTotal
/-!
# C08 — Build accepts exactly the registration sets whose services are resolvable

Validation (`accepts_iff`, never "not found" afterwards) and the converse: Build succeeds on every valid set whose
constructors succeed.
-/
namespace Godi.Props.C08
open Godi.Container

/-- Accepts exactly: validation passes iff there is no cycle, no lifetime conflict and no missing
required dependency — missing *optional* dependencies, empty groups and built-in parameters never
make it fail (they do not occur in the right-hand side) -/
theorem accepts_iff (descs : List Desc) :
    verdict descs = .ok ↔
      (Godi.Graph.detectCycles (buildGraph descs)).2 = .ok ∧
      ¬ (∃ d ∈ descs, d.life ≠ .scoped ∧ ∃ dep ∈ d.deps, ∃ t, Provides descs dep t ∧ t.life = .scoped) ∧
      ¬ (∃ d ∈ descs, ∃ dep ∈ d.deps, dep.optional = false ∧ dep.grp = 0 ∧ isBuiltin dep = false ∧
            findService descs dep.ty dep.key = none) := by
  rw [← lifetimeConflict_iff, ← missingDependency_iff, (verdict_iff descs).2.2.2, Bool.not_eq_true, Bool.not_eq_true]

/-- No "not found" for declared dependencies: once validation passed, every non-optional, non-group
dependency of every registration — whatever its lifetime — is registered or built in, so resolving
it in an open scope answers with the built-in value or hands over to the descriptor registered for it -/
theorem required_dependency_is_found (beh : Beh) (st : State) (hv : verdict st.descs = .ok)
    (d : Desc) (hd : d ∈ st.descs) (dep : Dep) (hdep : dep ∈ d.deps) (hreq : dep.optional = false) (hg : dep.grp = 0)
    (s f : Nat) (hopen : (st.scope s).disposed = false) :
    (isBuiltin dep = true ∧ ∃ v, resolve beh (f + 1) st s dep.ty dep.key = (st, .ok v)) ∨
    (∃ t, findService st.descs dep.ty dep.key = some t ∧
          resolve beh (f + 1) st s dep.ty dep.key = resolveDesc beh f st s t) := by
  rcases resolve_succ beh st s dep.ty dep.key with ⟨t, ht, e⟩ | ⟨r, e, ⟨_, hdisp⟩ | ⟨⟨v, rfl⟩, hk, hty⟩ | ⟨_, hf, hb⟩⟩
  · exact .inr ⟨t, ht, e f⟩
  · rw [hopen] at hdisp; cases hdisp
  · exact .inl ⟨by simp [isBuiltin, hk, hg, hty], v, e f⟩
  · have hnb : isBuiltin dep = false := Bool.eq_false_iff.2 fun h => by
      simp only [isBuiltin, Bool.and_eq_true, beq_iff_eq, decide_eq_true_eq] at h
      exact hb ⟨h.1.1, h.2⟩
    exact absurd ⟨d, hd, dep, hdep, hreq, hg, hnb, hf⟩ ((accepts_iff st.descs).1 hv).2.2

/-- an empty group resolves to the empty slice -/
theorem empty_group_ok (beh : Beh) (st : State) (s f ty grp : Nat) (hopen : (st.scope s).disposed = false)
    (he : groupMembers st.descs ty grp = []) :
    getGroup beh (f + 2) st s ty grp = (st, .ok (.group [])) := by
  unfold getGroup; simp [hopen, he, resolveMembers]

/-- a missing optional dependency leaves the field zero and construction goes on -/
theorem optional_missing_is_zero (beh : Beh) (st : State) (s f : Nat) (dep : Dep) (deps : List Dep) (acc : List Val)
    (hopt : dep.optional = true) (hg : dep.grp = 0) (hnb : ¬ (dep.key = 0 ∧ dep.ty < 3))
    (hopen : (st.scope s).disposed = false) (hn : findService st.descs dep.ty dep.key = none) :
    buildArgs beh (f + 2) st s (dep :: deps) acc = buildArgs beh (f + 1) st s deps (acc ++ [.zero]) := by
  have h0 : ¬ (dep.key = 0 ∧ dep.ty = tyCtx) := fun h => hnb ⟨h.1, by rw [h.2]; decide⟩
  have h1 : ¬ (dep.key = 0 ∧ dep.ty = tyProvider) := fun h => hnb ⟨h.1, by rw [h.2]; decide⟩
  have h2 : ¬ (dep.key = 0 ∧ dep.ty = tyScope) := fun h => hnb ⟨h.1, by rw [h.2]; decide⟩
  have hr : resolve beh (f + 1) st s dep.ty dep.key = (st, .error [.resolution, .notFound]) := by
    unfold resolve; simp [hopen, h0, h1, h2, hn]
  conv => lhs; unfold buildArgs
  simp [hg, hr, hopt, isConstruction]

/-- Never "service not found": on a registry that passed validation, in every state over it (any
history, any scope — fresh or not — any behaviour of the constructors), resolving a registered identity
never yields an error whose chain contains `ErrServiceNotFound`, however deep the dependency nesting:
every non-optional dependency of every registration met on the way is registered or built in, and an
unregistered *optional* dependency is tolerated where it occurs -/
theorem registered_service_never_not_found (beh : Beh) (st : State) (hv : verdict st.descs = .ok)
    (s ty key : Nat) (hreg : (findService st.descs ty key).isSome) :
    noNF (scopeGet beh st s ty key).2 = true :=
  ((noNotFound beh st.descs (present_of_verdict _ hv) (fuelFor st)).1 st s ty key rfl).resolve_right
    (fun h => by rw [h.2.1] at hreg; cases hreg)

/-- … nor does the resolution of a group (whatever its members depend on), … -/
theorem group_never_not_found (beh : Beh) (st : State) (hv : verdict st.descs = .ok) (s ty grp : Nat) :
    noNF (scopeGetGroup beh st s ty grp).2 = true :=
  (noNotFound beh st.descs (present_of_verdict _ hv) (fuelFor st)).2.2.1 st s ty grp rfl

/-- … nor the construction of any registration (singletons at Build, initializers at scope creation) -/
theorem construction_never_not_found (beh : Beh) (st : State) (hv : verdict st.descs = .ok) (s : Nat) (d : Desc)
    (hd : d ∈ st.descs) : noNF (createInstance beh (fuelFor st) st s d).2 = true :=
  (noNotFound beh st.descs (present_of_verdict _ hv) (fuelFor st)).2.2.2.2.2 st s d rfl hd

/-- the built-in injectables are always found -/
theorem builtin_never_not_found (beh : Beh) (st : State) (hv : verdict st.descs = .ok) (s ty : Nat) (ht : ty < 3) :
    noNF (scopeGet beh st s ty 0).2 = true :=
  ((noNotFound beh st.descs (present_of_verdict _ hv) (fuelFor st)).1 st s ty 0 rfl).resolve_right
    (fun h => h.2.2 ⟨rfl, ht⟩)

/-- Build accepts every valid set (the converse): a registration set with the collection's structural guarantees
that passes validation — no dependency cycle, no lifetime conflict, no missing required dependency; missing optional
dependencies, empty groups and initializers that depend on singletons are all allowed —, whose constructors succeed
(`GoodBeh`: no invocation fails, no result-object field is left nil), built in a creation order that lists every
singleton after the singletons it reaches directly or through transients/scoped services (what the topological sort
delivers, `Props/C06b.sorted_order_is_a_creation_order`): `doBuild` creates the root scope, every singleton and runs the root scope's initializers
without an error. -/
theorem build_accepts_valid_sets (beh : Beh) (gb : GoodBeh beh) (descs : List Desc) (order : List Nat)
    (hyp : failedHyps descs = []) (hv : verdict descs = .ok)
    (hall : ∀ d ∈ descs, d.life = .singleton → d.id ∈ order)
    (hord : ∀ pre id post, order = pre ++ id :: post → ∀ d, findDesc descs id = some d → d.life = .singleton →
      ∀ t, ReachLong descs d t → t.life = .singleton → t.id ∈ pre) :
    (build beh descs order).2 = .ok () :=
  build_succeeds beh gb descs order hyp hv hall hord

/-- … and in any state over that registry where the singletons are stored and nothing is marked absent (such is the
provider Build returns, `Props/C06b`), every registered service is constructed from every open scope: `createInstance`
answers with a value, not an error -/
theorem every_service_resolves (beh : Beh) (gb : GoodBeh beh) (descs : List Desc)
    (hyp : failedHyps descs = []) (hv : verdict descs = .ok) (st : State) (s : Nat)
    (hst : st.descs = descs) (hopen : (st.scope s).disposed = false) (hna : NoAbsent st)
    (hall : ∀ t ∈ descs, t.life = .singleton → StoredS st t) (d : Desc) (hd : d ∈ descs) :
    ∃ v, (createInstance beh (fuelFor st) st s d).2 = .ok v :=
  createInstance_succeeds beh gb descs (valid_of_check descs hyp hv) st s ⟨hst, hopen, hna⟩ d hd
    (fun t ht htl => hall t (reachLong_mem ht) htl)

/-- singleton 8 ← transient 7 ← singleton 6 ← scoped initializer: built in the order 8, 6 -/
def exChain : List Desc :=
  [{ id := 0, ident := ⟨6, 0, 0⟩, life := .singleton, ctor := 1, kind := .plain, deps := [{ ty := 7 }, { ty := 9, optional := true }] },
   { id := 1, ident := ⟨7, 0, 0⟩, life := .transient, ctor := 2, kind := .plain, deps := [{ ty := 8 }, { ty := 5, grp := 3 }] },
   { id := 2, ident := ⟨8, 0, 0⟩, life := .singleton, ctor := 3, kind := .plain, deps := [] },
   { id := 3, ident := ⟨10, 0, 0⟩, life := .scoped, ctor := 4, kind := .void, deps := [{ ty := 6 }] }]
example : failedHyps exChain = [] ∧ verdict exChain = .ok := by decide
def isOkU (r : Except Err Unit) : Bool := match r with | .ok _ => true | .error _ => false
example : isOkU (build {} exChain [2, 1, 0, 3]).2 = true := by decide
/-- the order matters for the premise: with 6 before 8 the model's Build reports "singleton not initialized" -/
example : isOkU (build {} exChain [0, 2]).2 = false := by decide

def exMissing : List Desc :=
  [{ id := 0, ident := ⟨3, 0, 0⟩, life := .scoped, ctor := 1, kind := .plain, deps := [{ ty := 9 }] }]
def exOptional : List Desc :=
  [{ id := 0, ident := ⟨3, 0, 0⟩, life := .scoped, ctor := 1, kind := .plain,
     deps := [{ ty := 9, optional := true }, { ty := 5, grp := 2 }, { ty := tyScope }] }]
example : verdict exMissing = .missing := by decide
example : verdict exOptional = .ok := by decide
/-- the optional dependency on the unregistered type 9 is tolerated: the service is constructed -/
example : okIs (scopeGet {} { descs := exOptional, nscopes := 1 } 0 3 0).2 (.inst 1) = true := by decide
/-- without validation the premise fails for a reason: the missing required dependency surfaces as notFound -/
example : noNF (scopeGet {} { descs := exMissing, nscopes := 1 } 0 3 0).2 = false := by decide

end Godi.Props.C08
