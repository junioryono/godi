import GodiProofs.Collection.Reach
import GodiProofs.Collection.Reject
import GodiProofs.Collection.Views
import GodiProofs.Collection.Accept
/-!
# C17 — the collection is an exact, atomic registry and Build takes a snapshot

"Each (type, key) identity holds at most one registration - a second is rejected as already
registered - while a group accumulates members in call order, and Contains/ContainsKeyed/Count/
ToSlice always describe exactly the registrations a later Build will use. A rejected registration
leaves the collection as it was; Remove/RemoveKeyed make the removed registration have no effect on
later builds (its constructor never runs); and a provider that has been built is unaffected by later
changes to the collection."

Quantification: `cs : List Call` is any history of `Add*`, `Remove`, `RemoveKeyed` and `AddModules`
calls (with any module trees) from `NewCollection()`; `r : Req` any request (any option combination,
any fan-out, valid or not). Queries and Build do not change the collection, so they do not appear
in the history; `C17_snapshot` quantifies over any operations after a Build.
Model: `GodiModel/Collection.lean` (M3), spec: `GodiModel/Spec/Registry.lean`.
-/
namespace Godi.Props.C17
open Godi.Coll Godi.Spec

/-- the collection after a history of calls on a new collection -/
abbrev after (cs : List Call) : Coll := runCalls empty cs

/-- At most one registration per identity: the service entries of the list Build iterates have
pairwise different `(type, key)` identities, and `services[k]` is that entry. -/
theorem C17_unique (cs : List Call) :
    Unique (after cs).reg.all ∧ ∀ k, (after cs).reg.svc k = lookup (after cs).reg.all k :=
  ⟨(reachable_inv cs).uniq, (reachable_inv cs).svc_spec⟩

/-- A second registration of an identity is rejected: registering a descriptor whose identity is
taken fails, and unless its type is reserved `AlreadyRegisteredError{type}` is on the unwrap chain
(directly for an unkeyed service, inside a `RegistrationError` for a keyed one). -/
theorem C17_second_rejected (cs : List Call) (d : Desc) (hp : svcPath d)
    (hc : containsKeyed (after cs) d.ty d.key = true) :
    ∃ e, registerDescriptor (after cs) d = .error e ∧ (reserved d.ty = true ∨ eAlready d.ty ∈ e.chain) :=
  registerDescriptor_collision _ d hp hc

/-- … and so is every Add call, whatever its form, that passes the argument checks and has the
taken identity among its outputs (primary type, further return, result-object field or alias); the
collection is left as it was. -/
theorem C17_second_rejected_call (cs : List Call) (r : Req) (key0 : Key)
    (hp : (preChecks (after cs) r).2 = .ok key0)
    (h : ∃ it ∈ r.items key0, svcPath it.d ∧ containsKeyed (after cs) it.d.ty it.d.key = true) :
    (addService (after cs) r).2 ≠ none ∧ (addService (after cs) r).1.reg = (after cs).reg := by
  have h1 := addService_collision (after cs) r key0 hp h
  exact ⟨h1, (addService_spec _ r (reachable_inv cs)).2.2.1 h1⟩

/-- A group is the sub-list of its members in the order of the list, i.e. in call order. -/
theorem C17_group_order (cs : List Call) (g : GKey) :
    (after cs).reg.grp g = members (after cs).reg.all g := (reachable_inv cs).grp_spec g

/-- Registering a grouped descriptor appends it to its group and to the list; it never fails for
being a duplicate. -/
theorem C17_group_append (cs : List Call) (d0 : Desc) (hk : d0.key = .nil) (hg : d0.grp ≠ 0)
    (hr : reserved d0.ty = false) :
    ∃ c' d, registerDescriptor (after cs) d0 = .ok c' ∧ d.ty = d0.ty ∧ d.grp = d0.grp ∧ d.ctor = d0.ctor ∧
      c'.reg.grp d0.gkey = (after cs).reg.grp d0.gkey ++ [d] ∧ c'.reg.all = (after cs).reg.all ++ [d] := by
  have hp : ¬ svcPath d0 := by simp [svcPath, hk, hg]
  obtain ⟨c', h⟩ : ∃ c', registerDescriptor (after cs) d0 = .ok c' := by
    unfold registerDescriptor
    rw [hr, if_neg Bool.false_ne_true]
    exact ⟨_, if_neg hp⟩
  obtain ⟨d, r⟩ := registerDescriptor_ok (by rw [hk]; rfl) h
  rcases r.shape with ⟨hs, _⟩ | ⟨_, _, _, _, hgrp, _⟩
  · exact absurd hs hp
  · refine ⟨c', d, h, r.ty_eq, r.grp_eq, r.ctor_eq, ?_, r.all_eq⟩
    rw [hgrp, Desc.gkey, Desc.gkey, r.ty_eq, r.grp_eq, upd_self]

/-- Remove/RemoveKeyed leave every group alone. -/
theorem C17_remove_keeps_groups (c : Coll) (k : Ident) : (removeKey c k).reg.grp = c.reg.grp := by
  unfold removeKey; split <;> rfl

/-- The three views agree. The maps are functions of the list Build iterates (`services[k]` = its
service entry with identity `k`, `groups[g]` = its members of `g`); the list is, up to order, exactly
the values of `services` plus the members of all groups, nothing twice; the key lists hold exactly
the keys present; so `Contains`, `ContainsKeyed`, `HasGroup`, `Count`, `ToSlice` all describe the same
set of registrations — the one `doBuild` iterates. -/
theorem C17_views_agree (cs : List Call) :
    let c := after cs
    c.reg.all.Perm (c.reg.skeys.filterMap c.reg.svc ++ c.reg.gkeys.flatMap c.reg.grp) ∧
    c.reg.all.Nodup ∧
    (∀ ty, contains c ty = (lookup (toSlice c) (ty, .nil)).isSome) ∧
    (∀ ty k, containsKeyed c ty k = (lookup (toSlice c) (ty, k)).isSome) ∧
    (∀ ty g, hasGroup c ty g = (g != 0 && !(members (toSlice c) (ty, g)).isEmpty)) ∧
    count c = (toSlice c).length ∧
    (∀ d ∈ toSlice c, (isSvc d = true ∧ c.reg.svc d.ident = some d) ∨ (isMember d = true ∧ d ∈ c.reg.grp d.gkey)) := by
  have inv := reachable_inv cs
  refine ⟨views_perm inv, all_nodup inv, ?_, ?_, ?_, rfl, entry_in_view inv⟩
  · intro ty; simp only [contains, toSlice, inv.svc_spec]
  · intro ty k; simp only [containsKeyed, toSlice, inv.svc_spec]
  · intro ty g; simp only [hasGroup, toSlice, inv.grp_spec]

/-- A rejected registration leaves the collection as it was: all three views (maps, key lists,
descriptor list) are *equal* to what they were, also when the call had registered some of its
outputs before it failed. -/
theorem C17_reject_atomic (cs : List Call) (r : Req) (c' : Coll) (e : Err)
    (h : addService (after cs) r = (c', some e)) : c'.reg = (after cs).reg :=
  (h ▸ (addService_spec _ r (reachable_inv cs)).2.2.1) (by simp)

/-- … hence every query answers as before. -/
theorem C17_reject_queries (cs : List Call) (r : Req) (c' : Coll) (e : Err)
    (h : addService (after cs) r = (c', some e)) :
    (∀ ty, contains c' ty = contains (after cs) ty) ∧ (∀ ty k, containsKeyed c' ty k = containsKeyed (after cs) ty k) ∧
    (∀ ty g, hasGroup c' ty g = hasGroup (after cs) ty g) ∧ count c' = count (after cs) ∧ toSlice c' = toSlice (after cs) := by
  have := C17_reject_atomic cs r c' e h
  refine ⟨fun _ => ?_, fun _ _ => ?_, fun _ _ => ?_, ?_, ?_⟩ <;>
    simp only [contains, containsKeyed, hasGroup, count, toSlice, this]

/-- An accepted registration only appends to the list Build iterates. -/
theorem C17_accept_appends (cs : List Call) (r : Req) (c' : Coll)
    (h : addService (after cs) r = (c', none)) : ∃ news, c'.reg.all = (after cs).reg.all ++ news :=
  (h ▸ (addService_spec _ r (reachable_inv cs)).2.1) rfl

/-- … and what the fan-out loop appends is exactly the items it is given: one descriptor per item,
in order, with the requested type, group and constructor, under the requested key when it is a
service (a group member gets its running number). Stated for `registerEach` on any list of items;
that the items are those of the request (`r.items key0`) is not part of the statement. -/
theorem C17_accept_exact (cs : List Call) (op : String) (items : List Item)
    (hk : ∀ it ∈ items, it.d.key.isIdx = false) (h : (registerEach op (after cs) items).2 = none) :
    ∃ news, (registerEach op (after cs) items).1.reg.all = (after cs).reg.all ++ news ∧
      news.map Desc.sig = items.map (fun it => it.d.sig) ∧
      ∀ p ∈ news.zip items, svcPath p.2.d → p.1.key = p.2.d.key :=
  registerEach_accepts op items _ (reachable_inv cs) hk h

/-- "The removed registration has no effect on later builds": whatever an invocation of a still
registered constructor stores, it stores under identities that are currently registered by the same
call — never under an identity that was removed (and possibly registered again by someone else). -/
def NoGhost (reg : Registry) : Prop := NoGhostWith storeOuts reg

def C17_remove_effective_statement : Prop := ∀ cs : List Call, NoGhost (after cs).reg.all

/-- The clause holds (since /repo 852a640; it was finding D25 before: `createInstance` stored the
outputs of all siblings of a call, removed or not). It holds of every list, reachable or not
(`noGhost_storeOuts`): `storeOuts` keeps exactly the siblings that pass this test, so the content
is that `storeOuts` mirrors the repaired `createInstance`, not the quantification over histories. -/
theorem C17_remove_effective : C17_remove_effective_statement := fun cs => noGhost_storeOuts (after cs).reg.all

/-- After Remove/RemoveKeyed the registration is in none of the three views —
`Contains` is false, the key is gone, the list Build iterates is the old one without that identity,
other identities and all groups are untouched; and a constructor none of whose descriptors is left in the list is not run by
Build. -/
theorem C17_remove_effective_views (cs : List Call) (k : Ident) :
    let c := after cs
    let c' := removeKey c k
    c'.reg.svc k = none ∧ k ∉ c'.reg.skeys ∧ c'.reg.all = removeIdent c.reg.all k ∧
    (∀ d ∈ c'.reg.all, ¬ (isSvc d = true ∧ d.ident = k)) ∧
    (∀ k', k' ≠ k → c'.reg.svc k' = c.reg.svc k') ∧ c'.reg.grp = c.reg.grp ∧
    (∀ n, (∀ d ∈ c'.reg.all, d.ctor ≠ n) → n ∉ buildRuns c'.reg.all) := by
  have inv := reachable_inv cs
  have inv' := removeKey_inv inv k
  have hall := removeKey_all inv k
  have hnone : (removeKey (after cs) k).reg.svc k = none := by
    rw [inv'.svc_spec, hall, lookup_removeIdent]; simp
  refine ⟨hnone, ?_, hall, ?_, ?_, C17_remove_keeps_groups _ k, ?_⟩
  · intro hin
    have := (inv'.skeys_spec k).1 hin
    rw [hnone] at this; cases this
  · have : lookup (removeKey (after cs) k).reg.all k = none := by rw [← inv'.svc_spec]; exact hnone
    exact lookup_none this
  · intro k' hk'
    rw [inv'.svc_spec, hall, lookup_removeIdent, if_neg hk', inv.svc_spec]
  · intro n hn hmem
    obtain ⟨d, hd, hdn⟩ := buildRuns_sound _ n hmem
    exact hn d hd hdn

/-- the former witness of D25: `AddSingleton(func() (*A, *B))` then `Remove(*A)`, then a new
registration of `*A` (type 4). The descriptor of `*B` still lists `*A` among its siblings, but an
invocation of its constructor stores `*B` only; the new `*A` is produced by its own constructor. -/
def witnessD25 : List Call :=
  [.op (.add { ctor := 1, primary := 4, rets := [4, 5] }), .op (.rm 4), .op (.add { ctor := 2, primary := 4, rets := [4] })]

example : (toSlice (after witnessD25)).map (fun d => (d.ty, d.ctor)) = [(5, 1), (4, 2)] := by decide +kernel
example : (toSlice (after witnessD25)).map (·.stores) = [[(4, Key.nil, 0), (5, Key.nil, 0)], [(4, Key.nil, 0)]] := by decide +kernel
example : (toSlice (after witnessD25)).map (storeOuts (toSlice (after witnessD25))) =
    [[(5, Key.nil, 0)], [(4, Key.nil, 0)]] := by decide +kernel

/-- A provider that has been built is unaffected by later changes to the collection. `doBuild`
allocates two new map objects and copies the contents; the provider keeps references to those and
the descriptors its graph was built from. Whatever operations run on the collection afterwards
(through the collection's own references), every lookup the provider can make answers what the
collection held at Build; and the collection itself goes on exactly as if no Build had happened. -/
theorem C17_snapshot (h : Heap) (r : CollRef) (hs : r.sref < h.next) (hg : r.gref < h.next)
    (fs : List (Coll → Coll × Option Err)) :
    let b := h.build r
    let later := b.1.runAll r fs
    (∀ k, later.1.provFind b.2 k = (h.load r).reg.svc k) ∧
    (∀ g, later.1.provGroup b.2 g = if g.2 = 0 then [] else (h.load r).reg.grp g) ∧
    b.2.built = (h.load r).reg.all ∧
    later.1.load later.2 = applyAll (h.load r) fs := by
  simp only []
  obtain ⟨h1, h2, h3⟩ := runAll_spec fs (h.build r).1 r
  have hps : (h.build r).2.sref = h.next := rfl
  have hpg : (h.build r).2.gref = h.next + 1 := rfl
  have hbs : (h.build r).1.smaps h.next = h.smaps r.sref := by simp [Heap.build]
  have hbg : (h.build r).1.gmaps (h.next + 1) = h.gmaps r.gref := by simp [Heap.build]
  have hload : (h.build r).1.load r = h.load r := by
    have e1 : (h.build r).1.smaps r.sref = h.smaps r.sref := by
      simp only [Heap.build]; exact upd_ne _ _ (by omega)
    have e2 : (h.build r).1.gmaps r.gref = h.gmaps r.gref := by
      simp only [Heap.build]; exact upd_ne _ _ (by omega)
    simp only [Heap.load, e1, e2]
  refine ⟨?_, ?_, rfl, ?_⟩
  · intro k
    simp only [Heap.provFind, hps]
    rw [h2 h.next (by omega), hbs]; rfl
  · intro g
    simp only [Heap.provGroup, hpg]
    rw [h3 (h.next + 1) (by omega), hbg]; rfl
  · rw [h1, hload]

/-- a history with an accepted plain, keyed, grouped, multi-return and result-object registration,
a removal, a module, and three rejected calls (duplicate, half-way collision of a result object with
two members of one group before the colliding field, alias that is not implemented) -/
def sample : List Call :=
  [ .op (.add { ctor := 1, primary := 4, rets := [4] }),
    .op (.add { ctor := 2, primary := 4, rets := [4] }),                                     -- duplicate
    .op (.add { ctor := 3, primary := 4, rets := [4], name := 1 }),
    .op (.add { ctor := 4, primary := 5, rets := [5], group := 1, life := .transient }),
    .op (.add { ctor := 5, primary := 50, resultObj := true,
                fields := [{ ty := 5, grp := 1 }, { ty := 5, grp := 1 }, { ty := 4 }] }),     -- rolled back
    .op (.add { ctor := 6, primary := 6, rets := [6, 7] }),
    .op (.rm 6),
    .mods (.cons (.node "m" (.skip (.cons (.op (.add { ctor := 7, primary := 8, rets := [8], as := [(10, true), (11, false)] })) .nil))) .nil),
    .op (.add { ctor := 8, primary := 5, rets := [5], group := 1 }) ]

example : (toSlice (after sample)).map (fun d => (d.ty, d.key, d.grp, d.ctor)) =
    [(4, .nil, 0, 1), (4, .name 1, 0, 3), (5, .idx 1, 1, 4), (7, .nil, 0, 6), (5, .idx 2, 1, 8)] := by decide +kernel
example : count (after sample) = 5 ∧ contains (after sample) 4 = true ∧ contains (after sample) 6 = false ∧
    containsKeyed (after sample) 4 (.name 1) = true ∧ hasGroup (after sample) 5 1 = true ∧
    contains (after sample) 10 = false := by decide +kernel
/-- the hypotheses of `C17_second_rejected_call` are met by a concrete call: a multi-return
constructor whose second output is taken -/
example : ∃ key0, (preChecks (after sample) { ctor := 9, primary := 9, rets := [9, 4] }).2 = .ok key0 ∧
    ∃ it ∈ Req.items { ctor := 9, primary := 9, rets := [9, 4] } key0, svcPath it.d ∧
      containsKeyed (after sample) it.d.ty it.d.key = true :=
  ⟨.nil, rfl, { d := { ty := 4, ctor := 9, stores := [(9, .nil, 0), (4, .nil, 0)] } }, (by decide +kernel), (by decide +kernel), (by decide +kernel)⟩
/-- and a rejected call that had already registered two group members -/
def halfWay : Req :=
  { ctor := 5, primary := 50, resultObj := true, fields := [{ ty := 5, grp := 1 }, { ty := 5, grp := 1 }, { ty := 4 }] }
example : (addService (after (sample.take 4)) halfWay).2.isSome = true ∧
    (registerEach "x" (after (sample.take 4)) halfWay.fieldItems).1.reg.all.length = 5 ∧
    count (addService (after (sample.take 4)) halfWay).1 = 3 := by decide +kernel
/-- D26 as the code now is: a result-object field with a name and a group tag is refused when the
loop reaches it, after a service and two group members of the same call were registered; the
registry is the one before the call -/
def bothTags : Req :=
  { ctor := 9, primary := 50, resultObj := true,
    fields := [{ ty := 6 }, { ty := 5, grp := 1 }, { ty := 5, grp := 1 }, { ty := 4, name := 2, grp := 1 }, { ty := 7 }] }
example : (addService (after (sample.take 4)) bothTags).2.isSome = true ∧
    (registerEach "x" (after (sample.take 4)) (linkSiblings bothTags.fieldItems)).1.reg.all.length = 6 ∧
    count (addService (after (sample.take 4)) bothTags).1 = 3 ∧
    contains (addService (after (sample.take 4)) bothTags).1 6 = false := by decide +kernel

/-- a snapshot: Build, then a registration and a removal; the provider still finds what was there -/
example :
    let (h0, r0) := ({} : Heap).newCollection
    let (h1, r1, _) := h0.modify r0 (fun c => addService c { ctor := 1, primary := 4, rets := [4] })
    let (h2, p) := h1.build r1
    let (h3, r3) := h2.runAll r1 [fun c => addService c { ctor := 2, primary := 5, rets := [5], group := 1 },
                                   fun c => (remove c 4, none)]
    ((h3.provFind p (4, .nil)).map (·.ctor) = some 1 ∧ h3.provGroup p (5, 1) = [] ∧
      contains (h3.load r3) 4 = false ∧ hasGroup (h3.load r3) 5 1 = true) := by
  -- `dsimp only` resolves the `let` patterns, through which the search for the `Decidable` instance is slow
  dsimp only
  decide +kernel

/-- `C17_snapshot` is a statement about aliasing, not a triviality about values: a Build that hands
the provider the collection's own `groups` map (what `/repo` did before f284974, and what "clone only
when non-empty" would do again) makes a later grouped registration visible to the old provider -/
def buildSharing (h : Heap) (r : CollRef) : Heap × Prov := (h, { sref := r.sref, gref := r.gref, built := r.all })
example :
    let (h0, r0) := ({} : Heap).newCollection
    let (h1, p) := buildSharing h0 r0
    let (h2, _) := h1.runAll r0 [fun c => addService c { ctor := 2, primary := 5, rets := [5], group := 1 }]
    (h1.provGroup p (5, 1)).length = 0 ∧ (h2.provGroup p (5, 1)).length = 1 := by
  dsimp only
  decide +kernel

end Godi.Props.C17
