import GodiProofs.Graph.CyclePath
import GodiProofs.Graph.CyclePathComplete
/-!
# C05 (graph component) — "is there a directed cycle" is answered correctly for every graph

`DetectCycles` / `detectCyclesFrom` / `findCyclePath` of `internal/graph/graph.go`, for every graph
state satisfying the structural invariant `Base` (established by every mutation, see `Props/C19`),
every start node and every iteration order of the Go maps. The container-level clauses (Build fails
with a circular-dependency error exactly when the registered dependency relation has a cycle;
resolution terminates) are in `Props/C05b.lean`.
-/
namespace Godi.Props.C05
open Godi.Kahn (Key)
open Godi.Graph Godi.Spec

/-- Termination: the explicit-stack search never exhausts `2·|E| + 2·|V| + 4` iterations, on cyclic
graphs as well -/
theorem dfs_terminates (g : Graph) (b : Base g) (s : Key) : (detectCyclesFrom g s).2 ≠ .fuel :=
  detectCyclesFrom_never_fuel g b s

/-- Soundness: the reported node lies on a cycle and the reported path is a real cycle through it -/
theorem cycle_report_real (g : Graph) (s k : Key) (path : Option (List Key)) (g' : Graph)
    (h : detectCyclesFrom g s = (g', .cycle k path)) :
    Reach g.edges k k ∧ ∀ p, path = some p → isClosedWalk g.edges p = true ∧ p.head? = some k :=
  detectCyclesFrom_sound g s k path g' h

/-- … and the report always carries that path: `findCyclePath`, with the fuel the model runs on, finds a closed walk
through every node that lies on a cycle (`Graph/CyclePathComplete.lean`) — `CircularDependencyError.Path` is never
empty -/
theorem cycle_report_carries_a_path (g : Graph) (b : Base g) (s k : Key) (path : Option (List Key)) (g' : Graph)
    (h : detectCyclesFrom g s = (g', .cycle k path)) : ∃ p, path = some p :=
  detectCyclesFrom_has_path g b s k path g' h

/-- `findCyclePath` is exact: it returns a path iff the node is on a cycle -/
theorem findCyclePath_exact (g : Graph) (b : Base g) (k : Key) (hk : k ∈ g.nodes) :
    (∃ p, findCyclePath g k = some p) ↔ Reach g.edges k k :=
  ⟨fun ⟨_, hp⟩ => findCyclePath_reach hp, findCyclePath_complete g b k⟩

/-- Completeness: a clean run from `s` certifies that nothing reachable from `s` lies on a cycle -/
theorem clean_run_certifies (g : Graph) (s : Key) (hs : s ∈ g.nodes) (g' : Graph)
    (h : detectCyclesFrom g s = (g', .ok)) :
    ¬ Reach g.edges s s ∧ ∀ c, Reach g.edges s c → ¬ Reach g.edges c c :=
  have := detectCyclesFrom_complete g s hs g' h
  ⟨fun hr => this s hr hr, this⟩

theorem mem_nodes_of_reach {g : Graph} (b : Base g) {a c : Key} (h : Reach g.edges a c) : a ∈ g.nodes :=
  reach_src_mem_nodes b h

/-- Exactness of `DetectCycles` when it recomputes: for every iteration order of `g.edges` and of
`g.nodes` it answers "no cycle" iff the graph, read as a plain digraph, has no directed cycle -/
theorem detectCycles_exact (g : Graph) (b : Base g) (hd : g.cycleDirty = true)
    (eorder norder : List Key) (he : eorder.Perm g.ekeys) (hn : norder.Perm g.nodes) :
    (detectCyclesWith g eorder norder).2 = .ok ↔ ¬ HasCycle (abs g) := by
  have b2 : Base (resetCycleCache (updateDegreesWith g eorder)) :=
    (updateDegreesWith_base g eorder b).of_eq rfl rfl rfl (fun _ _ => rfl)
  have ha : abs (resetCycleCache (updateDegreesWith g eorder)) = abs g := by
    show Digraph.mk (updateDegreesWith g eorder).nodes (updateDegreesWith g eorder).edges = _
    rw [updateDegreesWith_nodes, updateDegreesWith_edges]; rfl
  rw [detectCyclesWith_dirty g eorder norder hd, ← ha]
  exact detectLoop_ok_iff_acyclic _ b2 norder (by simpa [resetCycleCache] using hn)

/-- and when it answers "cycle" the path it reports (if any) is a closed walk of the digraph -/
theorem detectCycles_path_real (g : Graph) (hd : g.cycleDirty = true) (eorder norder : List Key)
    (g' : Graph) (k : Key) (p : List Key)
    (h : detectCyclesWith g eorder norder = (g', .cycle k (some p))) :
    isClosedWalk g.edges p = true ∧ p.head? = some k := by
  rw [detectCyclesWith_dirty g eorder norder hd] at h
  -- the loop returns the answer of one of its `detectCyclesFrom` calls
  obtain ⟨s, _, hs⟩ := detectLoop_cycle (Prod.ext rfl (Prod.mk.inj h).2)
  have := (detectCyclesFrom_sound _ s k (some p) _ hs).2 p rfl
  rwa [show (resetCycleCache (updateDegreesWith g eorder)).edges = g.edges from updateDegreesWith_edges g eorder] at this

/-! non-vacuity: the model finds the cycle 1→2→3→1 and reports a real path; a DAG is clean -/
example : (detectCycles (Godi.Graph.addProviderDeferred (Godi.Graph.addProviderDeferred
    (Godi.Graph.addProviderDeferred {} 1 1 [2]) 2 2 [3]) 3 3 [1])).2 = .cycle 1 (some [1, 2, 3, 1]) := by decide
example : (detectCycles (Godi.Graph.addProviderDeferred (Godi.Graph.addProviderDeferred
    (Godi.Graph.addProviderDeferred {} 1 1 [2]) 2 2 [3]) 3 3 [])).2 = .ok := by decide

end Godi.Props.C05
