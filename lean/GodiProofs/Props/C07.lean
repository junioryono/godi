import GodiProofs.Container.Verdict
import GodiProofs.Container.NoCaptive
import GodiProofs.Container.HypSound
import GodiProofs.Container.Terminates
/-!
# C07 — No captive dependencies

`verdict` is phases 1–3 of `doBuild` (cycle check, `validateLifetimes`, `validateDependencies`).
`Provides descs dep t`: registration `t` can satisfy the declared dependency `dep` — the service
registered under exactly (type, key) for plain, keyed, aliased and parameter-object dependencies,
or *any member* of (type, group) for a group dependency.
-/
namespace Godi.Props.C07
open Godi.Container

/-- Build answers "lifetime conflict" exactly when there is no cycle and some singleton or transient
declares a dependency that a scoped registration provides -/
theorem conflict_iff (descs : List Desc) :
    verdict descs = .lifetime ↔
      (Godi.Graph.detectCycles (buildGraph descs)).2 = .ok ∧
      ∃ d ∈ descs, d.life ≠ .scoped ∧ ∃ dep ∈ d.deps, ∃ t, Provides descs dep t ∧ t.life = .scoped := by
  rw [← lifetimeConflict_iff]
  exact (verdict_iff descs).2.1

/-- never for sets where only scoped services depend on scoped ones -/
theorem never_when_only_scoped_depend_on_scoped (descs : List Desc)
    (h : ∀ d ∈ descs, ∀ dep ∈ d.deps, ∀ t, Provides descs dep t → t.life = .scoped → d.life = .scoped) :
    verdict descs ≠ .lifetime := by
  intro hv
  obtain ⟨_, d, hd, hl, dep, hdep, t, hp, ht⟩ := (conflict_iff descs).1 hv
  exact hl (h d hd dep hdep t hp ht)

/-- No captive, direct form: if Build gets past validation, then whatever registration the container
consults to satisfy a dependency of a singleton or transient is itself not scoped -/
theorem accepted_means_no_scoped_provider (descs : List Desc) (h : verdict descs = .ok ∨ verdict descs = .missing)
    (d : Desc) (hd : d ∈ descs) (hl : d.life ≠ .scoped) (dep : Dep) (hdep : dep ∈ d.deps)
    (t : Desc) (hp : Provides descs dep t) : t.life ≠ .scoped := by
  intro ht
  have hc : lifetimeConflict descs = true := (lifetimeConflict_iff descs).2 ⟨d, hd, hl, dep, hdep, t, hp, ht⟩
  rcases h with h | h
  · rw [((verdict_iff descs).2.2.2.1 h).2.1] at hc; cases hc
  · rw [((verdict_iff descs).2.2.1.1 h).2.1] at hc; cases hc

/-- … and resolution consults exactly those registrations: a plain/keyed dependency that is not built in is answered by
the registration `findService` returns, … -/
theorem resolve_consults_provider (beh : Beh) (st : State) (s f ty key : Nat) (t : Desc)
    (h : (st.scope s).disposed = false) (hnb : ¬ (key = 0 ∧ ty < 3)) (ht : findService st.descs ty key = some t) :
    resolve beh (f + 1) st s ty key = resolveDesc beh f st s t := by
  rcases resolve_succ beh st s ty key with ⟨d, hd, e⟩ | ⟨r, _, ⟨_, hdisp⟩ | ⟨_, hb⟩ | ⟨_, hf, _⟩⟩
  · rw [ht] at hd; cases hd; exact e f
  · rw [h] at hdisp; cases hdisp
  · exact absurd hb hnb
  · rw [ht] at hf; cases hf

/-- … a group by its members in registration order -/
theorem group_consults_members (beh : Beh) (st : State) (s f ty grp : Nat) (h : (st.scope s).disposed = false) :
    getGroup beh (f + 1) st s ty grp = resolveMembers beh f st s (groupMembers st.descs ty grp) [] := by
  unfold getGroup; simp [h]

/-- validation establishes the `Accepted` that `NoCaptive.lean` assumes -/
theorem accepted_of_verdict (descs : List Desc) (h : verdict descs = .ok ∨ verdict descs = .missing) : Accepted descs :=
  fun d hd hl dep hdep t hp => accepted_means_no_scoped_provider descs h d hd hl dep hdep t hp

/-- No captive dependencies. For every registry with the collection's structural guarantees that
validation accepts, every constructor behaviour, every creation order with which Build succeeds and
every history of resolutions, group resolutions, scope creations and closes afterwards: a constructor
of a singleton or transient registration has never received — as a plain, keyed or aliased argument,
as a parameter-object field or inside a group argument — an instance produced by a constructor of a
scoped registration. (The indirect form of the property is this statement applied to the events of the
other singletons and transients: what they hold are their own arguments.) -/
theorem no_captive_dependencies (beh : Beh) (descs : List Desc) (order : List Nat) (ops : List Op)
    (wf : WF descs) (rw' : RegWF descs) (is : InstSingleton descs) (idist : InstDistinct descs) (hz : LongCtor descs 0)
    (hv : verdict descs = .ok) (hok : (buildRuntime beh descs order).2 = .ok ())
    (did c inv s : Nat) (args : List Val) (outs : List Inst)
    (he : Event.ctor did c inv s args outs ∈ (run beh (buildRuntime beh descs order).1 ops).log)
    (x : Desc) (hx : findDesc descs did = some x) (hlong : x.life ≠ .scoped) :
    (∀ i, Val.inst i ∈ args → LongCtor descs ((run beh (buildRuntime beh descs order).1 ops).instMeta i).1) ∧
    (∀ l i, Val.group l ∈ args → i ∈ l → LongCtor descs ((run beh (buildRuntime beh descs order).1 ops).instMeta i).1) := by
  exact ((ncInvariant beh ⟨wf, rw', accepted_of_verdict descs (Or.inl hv)⟩).build_run (nc_start hz) order ops
    hok).event_args_clean did c inv s args outs he x hx hlong

/-! non-vacuity: singleton 0 takes a group whose member 1 is scoped ⇒ lifetime conflict;
the same with a scoped consumer is accepted -/
def bad : List Desc :=
  [{ id := 0, ident := ⟨3, 0, 0⟩, life := .singleton, ctor := 1, kind := .plain, deps := [{ ty := 4, grp := 1 }] },
   { id := 1, ident := ⟨4, 101, 1⟩, life := .scoped, ctor := 2, kind := .plain, deps := [] }]
def good : List Desc :=
  [{ id := 0, ident := ⟨3, 0, 0⟩, life := .scoped, ctor := 1, kind := .plain, deps := [{ ty := 4, grp := 1 }] },
   { id := 1, ident := ⟨4, 101, 1⟩, life := .scoped, ctor := 2, kind := .plain, deps := [] }]
example : verdict bad = .lifetime := by decide
example : verdict good = .ok := by decide

/-- the hypotheses of `no_captive_dependencies` are satisfiable, Build succeeds on the accepted registry -/
example : WF good ∧ RegWF good ∧ InstSingleton good ∧ InstDistinct good ∧ LongCtor good 0 ∧
    (match (buildRuntime {} good [1, 0]).2 with | .ok _ => true | .error _ => false) = true := by
  have h := hyps_of_check (descs := good) (by decide)
  exact ⟨h.1, h.2.1, h.2.2.1, h.2.2.2.1, h.2.2.2.2.2.2.1, by decide⟩

end Godi.Props.C07
